import TerwayModel.Proofs.PodEniProps
/-!
C11 — fixed IPs survive recreation; the leak collector only reaps what is provably ours and stale.
Model: `TerwayModel/Model/PodEni.lean`; invariants `Proofs/PodEni*.lean`.  The theorems about events quantify over all
histories `evs` from the empty world: all pod lifecycles, all interleavings of the pod controller, the PodENI
controller and the two collectors, all clock steps, all populations of foreign interfaces; the three rules
(`c11_keep_rule`, `c11_keep_order_independent`, `c11_leak_candidate_rule`) are laws of pure functions.
-/
namespace Terway.Props.C11
open Terway.PE

/-! ### the same interface and address come back -/

/-- as long as the record exists its allocations (interface ids, addresses, release strategies) never change:
    no event rewrites them, whatever it does to the phase, the owner uid or the attachment -/
theorem c11_allocations_never_change {evs : List Ev} {s t : St} {ev : Ev} {r r' : Rec}
    (hreach : run {} evs = some s) (hs : step s ev = some t) (hr : s.rcd = some r) (hr' : t.rcd = some r') :
    r'.allocs = r.allocs :=
  allocs_same hs hr hr'

/-- `runKeeping`: a history during which the record is never removed -/
def runKeeping (s : St) : List Ev → Option St
  | [] => some s
  | ev :: rest => match step s ev with
    | some t => if t.rcd.isSome then runKeeping t rest else none
    | none => none

theorem runKeeping_run {s t : St} {evs : List Ev} (h : runKeeping s evs = some t) : run s evs = some t := by
  induction evs generalizing s with
  | nil => simpa [runKeeping, run] using h
  | cons ev rest ih =>
    simp only [runKeeping] at h
    split at h
    · rename_i u hu
      split at h
      · simp only [run, hu]; exact ih h
      · cases h
    · cases h

/-- a fixed-address pod that is recreated under the same name gets the same interfaces and addresses back: over
    any history in which the record survives (detach, unbind, take-over by the new uid, binding, bind …) the
    allocations at the end are those at the beginning -/
theorem c11_same_interface_after_recreation {evs rest : List Ev} {s t : St} {r : Rec}
    (hreach : run {} evs = some s) (hr : s.rcd = some r) (hrest : runKeeping s rest = some t) :
    ∃ r', t.rcd = some r' ∧ r'.allocs = r.allocs := by
  clear hreach
  induction rest generalizing s r with
  | nil => simp [runKeeping] at hrest; subst hrest; exact ⟨r, hr, rfl⟩
  | cons ev tl ih =>
    simp only [runKeeping] at hrest
    split at hrest
    · rename_i u hu
      split at hrest
      · rename_i hsome
        obtain ⟨r1, hr1⟩ := Option.isSome_iff_exists.mp hsome
        obtain ⟨r', h1, h2⟩ := ih hr1 hrest
        exact ⟨r', h1, h2.trans (allocs_same hu hr hr1)⟩
      · cases hrest
    · cases hrest

/-- the record becomes Bind only when every interface it names is attached to the instance written into it -/
theorem c11_bind_means_attached {evs : List Ev} {s t : St} {ver inst : Nat} {c : Rec}
    (hreach : run {} evs = some s) (hs : step s (.eStatusBind ver inst .ok) = some t) (hc : s.rcd = some c) :
    ∀ a ∈ c.allocs, attachedTo s.cloud a.eni inst = true :=
  bind_attached (Inv.init.run hreach) hs hc

/-- an interface keeps its address for as long as it exists -/
theorem c11_address_of_interface_never_changes {evs : List Ev} {s t : St} {ev : Ev} {en en' : Eni}
    (hreach : run {} evs = some s) (hs : step s ev = some t) (h : en ∈ s.cloud) (h' : en' ∈ t.cloud)
    (hid : en'.id = en.id) : en'.ip = en.ip :=
  ip_same (Inv.init.run hreach) hs h h' hid

/-! ### the record of a fixed address is kept for its TTL -/

/-- the collector reaps (marks Deleting) a record only if every fixed allocation has release strategy TTL with a
    well-formed duration `d`, and `d` has fully elapsed since the controller last observed the pod (`obs`: the
    time of the last bind and of the last collector pass that found the pod).  A `Never` allocation, an unknown
    strategy or a malformed duration anywhere in the record keeps it forever. -/
theorem c11_reaped_only_after_ttl {evs : List Ev} {s t : St} {ver : Nat} {c : Rec} {a : Alloc}
    (hreach : run {} evs = some s) (hs : step s (.gReap ver .ok) = some t) (hc : s.rcd = some c)
    (ha : a ∈ c.allocs) (hf : a.fixed = true) :
    ∃ d, a.strat = .ttl d ∧ ∀ o, s.obs = some o → o + d ≤ s.now :=
  reap_after_ttl (Inv.init.run hreach) hs hc ha hf

/-- nobody but the collector's TTL decision sends a fixed-address record to Deleting, and its deletion is only
    requested once it is in Deleting -/
theorem c11_fixed_record_only_reaped_by_collector {evs : List Ev} {s t : St} {ev : Ev} {c c' : Rec}
    (hreach : run {} evs = some s) (hs : step s ev = some t) (hc : s.rcd = some c) (hf : c.fixed = true)
    (hc' : t.rcd = some c') :
    ((c'.phase = .deleting ∧ c.phase ≠ .deleting) → ∃ ver, ev = .gReap ver .ok) ∧
    ((c'.del = true ∧ c.del = false) → c.phase = .deleting) :=
  fixed_only_reaped (Inv.init.run hreach) hs hc hf hc'

/-- the collector's vote, allocation by allocation, is exactly the documented rule -/
theorem c11_keep_rule (allocs : List Alloc) (ls : Option Nat) (now : Nat) :
    keep allocs ls now = true ↔
      ∃ a ∈ allocs, a.strat = .never ∨ a.strat = .bad ∨ ∃ d t, a.strat = .ttl d ∧ ls = some t ∧ now < t + d := by
  simp only [keep, List.any_eq_true, allocKeeps_iff]

/-- order independence: the vote does not depend on the order of the allocations -/
theorem c11_keep_order_independent {a b : List Alloc} (h : a.Perm b) (ls : Option Nat) (now : Nat) :
    keep a ls now = keep b ls now := by
  simp only [keep]
  exact h.any_eq

/-! ### the leaked-interface collector -/

/-- whatever the population of the cloud (foreign tags, other clusters, young, referenced, any status): an
    interface the collector deletes or detaches carries this cluster's controller tags, was created at least the
    grace period (600 s) ago, and is named by no record — at the moment it is reaped -/
theorem c11_leak_collector_reaps_only_ours_old_unreferenced {evs : List Ev} {s t : St} {id : Nat} {ok : Bool} {ev : Ev}
    (hreach : run {} evs = some s) (hev : ev = .lDelete id ok ∨ ev = .lDetach id ok) (hs : step s ev = some t) :
    (∀ en ∈ s.cloud, en.id = id → en.ours = true ∧ en.ctime + grace ≤ s.now) ∧
    (∀ c, s.rcd = some c → id ∉ c.enis) :=
  leak_reap (Inv.init.run hreach) hev hs

/-- the candidates are computed exactly as the rule says -/
theorem c11_leak_candidate_rule (now : Nat) (e : Eni) :
    leakCand now e = true ↔ e.ours = true ∧ e.ctime + 600 ≤ now := by
  simp only [leakCand, grace, Bool.and_eq_true]
  constructor
  · rintro ⟨h1, h2⟩; exact ⟨h1, of_decide_eq_true h2⟩
  · rintro ⟨h1, h2⟩; exact ⟨h1, decide_eq_true h2⟩

/-- non-vacuity: an old unreferenced interface of ours is in fact reaped -/
def lEvs : List Ev :=
  [.podCreate true true, .pStart, .pGetPod (.live 0 true), .pGetRec false, .pCloudCreate true 0 0,
   .pCreateRec [(0, .elastic)] .err, .pCloudDelete 0 false, .pDone, .tick 700, .lDescribe false, .lList]
def lS : St := (run {} lEvs).getD {}
example : run {} lEvs = some lS ∧ (step lS (.lDelete 0 true)).isSome = true := ⟨by decide, by decide⟩

end Terway.Props.C11
