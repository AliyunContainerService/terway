import TerwayModel.Model.Factory
import TerwayModel.Proofs.VSwitch
/-!
C17 — vSwitch selection honours zone, capacity and policy without side effects.
Cache fills do not change what a lookup answers (`SameAnswers`), so `GetOne` is the pure loop `pickL` over the resolved
candidates (`getOne_choice`).
-/
namespace Terway.Props.C17
open Terway.VSwitch

def resolve (p : Pool) (id : String) : Option Sw :=
  match cached p id with
  | some sw => some sw
  | none => assoc p.cloud id

/-- assumed of the cloud: a lookup is answered with the vSwitch that was asked for -/
def WellKeyed (p : Pool) : Prop := ∀ id sw, assoc p.cloud id = some sw → sw.id = id

theorem getByID_result (p : Pool) (id : String) : (getByID p id).2 = resolve p id := by
  unfold getByID resolve
  cases cached p id with
  | some sw => rfl
  | none => simp only; cases assoc p.cloud id <;> rfl

def SameAnswers (p0 p : Pool) : Prop := WellKeyed p ∧ resolve p = resolve p0

theorem same_getByID (p0 p : Pool) (id : String) (h : SameAnswers p0 p) : SameAnswers p0 (getByID p id).1 := by
  obtain ⟨hk, e⟩ := h
  refine ⟨fun i sw h => hk i sw (getByID_cloud p id ▸ h), e ▸ funext fun id' => ?_⟩
  rcases getByID_cases p id with e' | ⟨sw, hc, ha, e'⟩
  · rw [e']
  · rw [e']
    -- the fill stores the cloud's answer, which `resolve` gave already, under the id asked for (`hk`)
    cases hk id sw ha
    by_cases hid : sw.id = id'
    · subst hid; simp only [resolve, cached_store, if_true, hc, ha]
    · simp only [resolve, cached_store, if_neg hid]; rfl

theorem same_step {p0 p p' : Pool} {id : String} {r : Option Sw} (h : SameAnswers p0 p) (hg : getByID p id = (p', r)) :
    resolve p0 id = r ∧ SameAnswers p0 p' :=
  ⟨by rw [← h.2, ← getByID_result, hg], getByID_pool _ (same_getByID p0) hg h⟩

/-- `scan` over already resolved candidates -/
def pickL (zone : String) (ign : Bool) : List Sw → List Sw → Option Sw
  | [], fb => fb.find? fun s => s.free ≠ 0
  | sw :: rest, fb =>
    if sw.zone ≠ zone then pickL zone ign rest (if ign then fb ++ [sw] else fb)
    else if sw.free = 0 then pickL zone ign rest fb
    else some sw

def cands (p : Pool) (ids : List String) : List Sw := ids.filterMap (resolve p)

theorem scan_choice (zone : String) (ign : Bool) (p0 p : Pool) (ids : List String) (fb : List Sw) (h : SameAnswers p0 p) :
    (scan zone ign p ids fb).2 = pickL zone ign (cands p0 ids) fb := by
  unfold cands
  fun_induction scan zone ign p ids fb with
  | case1 => rfl
  | case2 p id rest fb p' hg ih =>
    obtain ⟨hr, h'⟩ := same_step h hg
    rw [List.filterMap_cons, hr]; exact ih h'
  | case3 p id rest fb p' sw hg hz ih =>
    obtain ⟨hr, h'⟩ := same_step h hg
    rw [List.filterMap_cons, hr, pickL, if_pos hz]; exact ih h'
  | case4 p id rest fb p' sw hg hz hf ih =>
    obtain ⟨hr, h'⟩ := same_step h hg
    rw [List.filterMap_cons, hr, pickL, if_neg hz, if_pos hf]; exact ih h'
  | case5 p id rest fb p' sw hg hz hf =>
    rw [List.filterMap_cons, (same_step h hg).1, pickL, if_neg hz, if_neg hf]

theorem collect_result (p0 p : Pool) (ids : List String) (h : SameAnswers p0 p) :
    (collect p ids).2 = cands p0 ids := by
  unfold cands
  fun_induction collect p ids with
  | case1 => rfl
  | case2 p id rest p' hg ih =>
    obtain ⟨hr, h'⟩ := same_step h hg
    rw [List.filterMap_cons, hr]; exact ih h'
  | case3 p id rest p' sw hg p'' l hc ih =>
    obtain ⟨hr, h'⟩ := same_step h hg
    rw [List.filterMap_cons, hr, ← ih h', hc]

def KeyedResolve (p : Pool) : Prop := ∀ id sw, resolve p id = some sw → sw.id = id

theorem mem_cands (p : Pool) (hk : KeyedResolve p) (ids : List String) (s : Sw) (hs : s ∈ cands p ids) :
    s.id ∈ ids ∧ resolve p s.id = some s := by
  obtain ⟨id, hid, hr⟩ := List.mem_filterMap.mp hs
  cases hk id s hr
  exact ⟨hid, hr⟩

theorem getOne_choice (p : Pool) (hw : WellKeyed p) (hk : KeyedResolve p) (zone : String) (ign : Bool)
    (ids rho : List String) :
    (getOne p .ordered zone ign ids rho).choice = pickL zone ign (cands p ids) [] ∧
    (getOne p .random zone ign ids rho).choice = pickL zone ign (cands p rho) [] ∧
    (getOne p .most zone ign ids rho).choice = pickL zone ign (sortMost (cands p ids)) [] := by
  have h : SameAnswers p p := ⟨hw, rfl⟩
  refine ⟨scan_choice zone ign p p ids [] h, scan_choice zone ign p p rho [] h, ?_⟩
  -- the second pass looks the sorted switches up by id again, and gets them back
  show (scan zone ign (collect p ids).1 ((sortMost (collect p ids).2).map (·.id)) []).2 = _
  rw [scan_choice zone ign p _ _ [] (collect_pool _ (same_getByID p) p ids h), collect_result p p ids h]
  exact congrArg (pickL zone ign · [])
    (filterMap_map_of_inv fun s hs => (mem_cands p hk ids s ((sortMost_perm _).subset hs)).2)

def Elig (zone : String) (s : Sw) : Prop := s.zone = zone ∧ s.free ≠ 0

instance (zone : String) (s : Sw) : Decidable (Elig zone s) := inferInstanceAs (Decidable (_ ∧ _))

theorem pickL_eq (zone : String) (ign : Bool) (l fb : List Sw) :
    pickL zone ign l fb = ((l.find? fun s => Elig zone s).or
      ((fb ++ l.filter fun s => ign && s.zone ≠ zone).find? fun s => s.free ≠ 0)) := by
  induction l generalizing fb with
  | nil => simp [pickL]
  | cons x rest ih =>
    simp only [pickL, ih, List.find?_cons, List.filter_cons, Elig]
    by_cases hz : x.zone = zone
    · by_cases hf : x.free = 0 <;> simp [hz, hf]
    · cases ign <;> simp [hz]

theorem pickL_spec {zone : String} {ign : Bool} {l : List Sw} {sw : Sw} (h : pickL zone ign l [] = some sw) :
    sw ∈ l ∧ sw.free ≠ 0 ∧
    (sw.zone = zone → ∃ pre post, l = pre ++ sw :: post ∧ ∀ s ∈ pre, ¬ Elig zone s) ∧
    (sw.zone ≠ zone → ign = true ∧ ∀ s ∈ l, ¬ Elig zone s) := by
  rw [pickL_eq, List.nil_append, Option.or_eq_some_iff] at h
  rcases h with he | ⟨he, hf⟩
  · have := List.find?_eq_some_iff_append.mp he
    simp only [decide_eq_true_eq, Bool.not_eq_true', decide_eq_false_iff_not] at this
    obtain ⟨hs, pre, post, hl, hp⟩ := this
    exact ⟨by simp [hl], hs.2, fun _ => ⟨pre, post, hl, hp⟩, fun hne => absurd hs.1 hne⟩
  · have hn := List.find?_eq_none.mp he
    have hm := List.mem_of_find?_eq_some hf
    have hf := List.find?_some hf
    simp only [List.mem_filter, Bool.and_eq_true, decide_eq_true_eq] at hm hf hn
    exact ⟨hm.1, hf, fun hz => absurd hz hm.2.2, fun _ => ⟨hm.2.1, hn⟩⟩

theorem pickL_complete {zone : String} {l : List Sw} (ign : Bool) (fb : List Sw) (h : ∃ s ∈ l, Elig zone s) :
    ∃ sw, pickL zone ign l fb = some sw ∧ Elig zone sw := by
  have : (l.find? fun s => Elig zone s).isSome := List.find?_isSome.mpr (by simpa using h)
  obtain ⟨sw, hf⟩ := Option.isSome_iff_exists.mp this
  exact ⟨sw, by rw [pickL_eq, hf, Option.some_or], by simpa using List.find?_some hf⟩

section
variable (p : Pool) (hw : WellKeyed p) (hk : KeyedResolve p) (zone : String) (ign : Bool) (ids rho : List String)
include hw hk

theorem choice_perm (policy : Policy) (hperm : policy = .random → rho.Perm ids) :
    ∃ l, l.Perm (cands p ids) ∧ (getOne p policy zone ign ids rho).choice = pickL zone ign l [] := by
  have gc := getOne_choice p hw hk zone ign ids rho
  cases policy with
  | ordered => exact ⟨_, .refl _, gc.1⟩
  | random => exact ⟨_, (hperm rfl).filterMap _, gc.2.1⟩
  | most => exact ⟨_, sortMost_perm _, gc.2.2⟩

theorem choice_resolved (policy : Policy) (hperm : policy = .random → rho.Perm ids) (sw : Sw)
    (h : (getOne p policy zone ign ids rho).choice = some sw) :
    (sw.id ∈ ids ∧ sw.free ≠ 0) ∧ resolve p sw.id = some sw := by
  obtain ⟨l, hl, e⟩ := choice_perm p hw hk zone ign ids rho policy hperm
  have hs := pickL_spec (e ▸ h)
  have hm := mem_cands p hk ids sw (hl.subset hs.1)
  exact ⟨⟨hm.1, hs.2.1⟩, hm.2⟩

/-- the choice comes from the caller's candidate list and has free addresses -/
theorem c17_member_free_ordered (sw : Sw) (h : (getOne p .ordered zone ign ids rho).choice = some sw) :
    sw.id ∈ ids ∧ sw.free ≠ 0 :=
  (choice_resolved p hw hk zone ign ids rho .ordered nofun sw h).1

theorem c17_member_free_most (sw : Sw) (h : (getOne p .most zone ign ids rho).choice = some sw) :
    sw.id ∈ ids ∧ sw.free ≠ 0 :=
  (choice_resolved p hw hk zone ign ids rho .most nofun sw h).1

/-- `rho`: whatever permutation of the candidate list `rand.Shuffle` produced -/
theorem c17_member_free_random (hperm : rho.Perm ids) (sw : Sw)
    (h : (getOne p .random zone ign ids rho).choice = some sw) : sw.id ∈ ids ∧ sw.free ≠ 0 :=
  (choice_resolved p hw hk zone ign ids rho .random (fun _ => hperm) sw h).1

/-- zone: without fallback the choice lies in the requested zone; with fallback a foreign-zone vSwitch is chosen only
    when no in-zone candidate has free addresses (on the loop all three policies share) -/
theorem c17_zone (l : List Sw) (sw : Sw) (h : pickL zone ign l [] = some sw) :
    (ign = false → sw.zone = zone) ∧ (sw.zone ≠ zone → ∀ s ∈ l, ¬ Elig zone s) := by
  have hs := (pickL_spec h).2.2.2
  refine ⟨fun hi => Decidable.by_contra fun hne => ?_, fun hne => (hs hne).2⟩
  rw [(hs hne).1] at hi
  cases hi

/-- `ordered` picks the first eligible candidate of the caller's list -/
theorem c17_ordered_first (sw : Sw) (h : (getOne p .ordered zone ign ids rho).choice = some sw)
    (hz : sw.zone = zone) :
    ∃ pre post, cands p ids = pre ++ sw :: post ∧ ∀ s ∈ pre, ¬ Elig zone s := by
  rw [(getOne_choice p hw hk zone ign ids rho).1] at h
  exact (pickL_spec h).2.2.1 hz

/-- `most` picks an in-zone candidate with the most free addresses among the eligible ones -/
theorem c17_most_max (sw : Sw) (h : (getOne p .most zone ign ids rho).choice = some sw)
    (hz : sw.zone = zone) : ∀ s ∈ cands p ids, Elig zone s → s.free ≤ sw.free := by
  rw [(getOne_choice p hw hk zone ign ids rho).2.2] at h
  intro s hs he
  obtain ⟨pre, post, hl, hp⟩ := (pickL_spec h).2.2.1 hz
  have hs' := (sortMost_perm _).symm.subset hs
  have hsorted := sortMost_sorted (cands p ids)
  rw [hl] at hs' hsorted
  rcases List.mem_append.mp hs' with hpre | hpost
  · exact absurd he (hp s hpre)
  · rcases List.mem_cons.mp hpost with rfl | hpost
    · exact Int.le_refl _
    · exact (List.pairwise_cons.mp (List.pairwise_append.mp hsorted).2.1).1 s hpost

theorem complete_policy (policy : Policy) (hperm : policy = .random → rho.Perm ids) (h : ∃ s ∈ cands p ids, Elig zone s) :
    ∃ sw, (getOne p policy zone ign ids rho).choice = some sw ∧ Elig zone sw := by
  obtain ⟨l, hl, e⟩ := choice_perm p hw hk zone ign ids rho policy hperm
  obtain ⟨s, hs, he⟩ := h
  exact e ▸ pickL_complete ign [] ⟨s, hl.symm.subset hs, he⟩

/-- an eligible in-zone candidate is never passed over for an error or a fallback (`complete_policy`: every policy) -/
theorem c17_complete (h : ∃ s ∈ cands p ids, Elig zone s) :
    ∃ sw, (getOne p .ordered zone ign ids rho).choice = some sw ∧ Elig zone sw :=
  complete_policy p hw hk zone ign ids rho .ordered nofun h

/-- the caller's candidate slice is the same list after the call -/
theorem c17_caller_list_untouched (policy : Policy) :
    (getOne p policy zone ign ids rho).caller = ids := by
  cases policy <;> rfl

/-- a vSwitch whose cached entry says "no free addresses" is never chosen -/
theorem c17_exhausted_not_chosen (policy : Policy) (hperm : rho.Perm ids) (id : String) (s0 : Sw)
    (hr : resolve p id = some s0) (h0 : s0.free = 0) (sw : Sw)
    (h : (getOne p policy zone ign ids rho).choice = some sw) : sw.id ≠ id := by
  intro e
  have hs := choice_resolved p hw hk zone ign ids rho policy (fun _ => hperm) sw h
  rw [e, hr] at hs
  cases hs.2
  exact hs.1.2 h0

end

/-- `Block`: the exhausted mark lasts until the cache entry expires (`h`: on an id that is not cached `Block` does
    nothing) -/
theorem block_marks (p : Pool) (id : String) (s : Sw) (h : cached p id = some s) (dt : Nat) (hdt : dt ≤ p.ttl) :
    ∃ s0, resolve (tick (block p id) dt) id = some s0 ∧ s0.free = 0 := by
  have : p.now + dt ≤ p.now + p.ttl := by omega
  refine ⟨{ s with free := 0 }, ?_, rfl⟩
  simp only [block, h]
  simp [resolve, cached, tick, assoc, this]

/-! `KeyedResolve` follows from `WellKeyed` (of the cloud, which no pool operation touches) and `CacheKeyed`, which
every pool operation keeps. -/

def CacheKeyed (p : Pool) : Prop := ∀ id e, assoc p.cache id = some e → e.sw.id = id

theorem cached_keyed {p : Pool} (hc : CacheKeyed p) {id : String} {s : Sw} (h : cached p id = some s) : s.id = id := by
  unfold cached at h
  split at h
  · rename_i e he
    split at h
    · cases h; exact hc id e he
    · cases h
  · cases h

theorem keyedResolve_of (p : Pool) (hc : CacheKeyed p) (hw : WellKeyed p) : KeyedResolve p := by
  intro id sw h
  unfold resolve at h
  split at h
  · cases h; exact cached_keyed hc ‹_›
  · exact hw id sw h

theorem cacheKeyed_put (p : Pool) (hc : CacheKeyed p) (e : Ent) :
    CacheKeyed { p with cache := (e.sw.id, e) :: remove p.cache e.sw.id } := by
  intro id e' h
  simp only [assoc_cons_remove] at h
  split at h
  · cases h; assumption
  · exact hc id e' h

theorem cacheKeyed_getByID (p : Pool) (id : String) (hc : CacheKeyed p) : CacheKeyed (getByID p id).1 := by
  rcases getByID_cases p id with e | ⟨sw, _, _, e⟩ <;> rw [e]
  · exact hc
  · exact cacheKeyed_put p hc { sw := sw, expiry := p.now + p.ttl }

theorem cacheKeyed_block (p : Pool) (id : String) (hc : CacheKeyed p) : CacheKeyed (block p id) := by
  unfold block
  cases h : cached p id with
  | none => exact hc
  | some s =>
    cases cached_keyed hc h
    exact cacheKeyed_put p hc { sw := { s with free := 0 }, expiry := p.now + p.ttl }

theorem cacheKeyed_tick (p : Pool) (dt : Nat) (hc : CacheKeyed p) : CacheKeyed (tick p dt) := hc

theorem cacheKeyed_getOne (p : Pool) (policy : Policy) (zone : String) (ign : Bool) (ids rho : List String)
    (hc : CacheKeyed p) : CacheKeyed (getOne p policy zone ign ids rho).pool :=
  getOne_pool CacheKeyed cacheKeyed_getByID p policy zone ign ids rho hc

/-- non-vacuity: a concrete pool in which ordered, most and blocked behave differently -/
def demoPool : Pool :=
  { ttl := 10, now := 0, cache := [],
    cloud := [("a", ⟨"a", "z", 3⟩), ("b", ⟨"b", "z", 9⟩), ("c", ⟨"c", "y", 50⟩)] }

example : (getOne demoPool .ordered "z" false ["a", "b", "c"] []).choice = some ⟨"a", "z", 3⟩ := by decide
example : (getOne demoPool .most "z" false ["a", "b", "c"] []).choice = some ⟨"b", "z", 9⟩ := by decide
example : (getOne (block (getByID demoPool "b").1 "b") .most "z" false ["a", "b", "c"] []).choice = some ⟨"a", "z", 3⟩ := by decide
example : (getOne demoPool .ordered "q" true ["a", "b", "c"] []).choice = some ⟨"a", "z", 3⟩ := by decide

/-- a vSwitch the cloud reported exhausted to the factory is not named by a later create request while its cache entry
    lives: of two orders in a row over exhausted candidates the first names each candidate once, the second sends no
    create request -/
theorem c17_factory_exhausted_not_chosen_again (n : Nat) :
    (Factory.exhaustTwice n).2 = [] ∧ (Factory.exhaustTwice n).1 = List.range n := by
  simp [Factory.exhaustTwice, Factory.exhaustOrder]

example : Factory.exhaustTwice 2 = ([0, 1], []) := by decide

end Terway.Props.C17
