import TerwayModel.Proofs.Daemon
import TerwayModel.Proofs.StoredRec
/-!
C05 — a daemon restart keeps acknowledged allocations and never double-allocates.
Model: `restart` / `crash` / `Store` in `Model/Daemon.lean`; the start-up filter over the stored records (daemon.go
`filterENINotFound`): `Model/StoredRec.lean`.
-/
namespace Terway.Props.C05
open Terway.Daemon

/-- from a fresh start, after any sequence of requests (overlapping or not), GC passes, restarts and crashes inside
    the database write of a request: pool keys are distinct, there is one record per pod, with one address per enabled
    family, a recorded address that is in the pool is bound to its pod, every binding is recorded, no two records name
    one address.  `Op.Good` excludes a failing ADD that keeps what it took (the defect repaired in `Manager.Allocate`)
    and a cloud report that lists an address twice. -/
theorem c05_invariant_all_histories (crd dual : Bool) (cloud : List (String × Nat)) (hc : cloud.Nodup)
    (ops : List Op) (hg : ∀ op ∈ ops, op.Good) : Inv (run (boot crd dual cloud) ops) :=
  (Inv.of_boot crd dual hc).run_pres hg

/-- hence in every reachable state an acknowledged (recorded) address is bound to its pod, and to no
    other pod's record -/
theorem c05_acknowledged_exclusive (crd dual : Bool) (cloud : List (String × Nat)) (hc : cloud.Nodup)
    (ops : List Op) (hg : ∀ op ∈ ops, op.Good) (p q : String) (r rq : Rec) (hpq : p ≠ q) :
    let s := run (boot crd dual cloud) ops
    dbGet s.db p = some r → dbGet s.db q = some rq →
      (∀ e ∈ s.pool, e.eni = r.eni → e.ip ∈ r.ips → e.owner = some p) ∧
      (r.eni = rq.eni → ∀ ip ∈ r.ips, ip ∉ rq.ips) := by
  intro s hr hq
  have hI : Inv s := c05_invariant_all_histories crd dual cloud hc ops hg
  exact ⟨hI.bound p r hr, fun he ip hi => hI.noShare p q r rq hr hq hpq he ip hi⟩

/-- an ADD never hands out an address another pod's record names -/
theorem c05_add_never_takes_recorded (s : Svc) (hI : Inv s) (p q cid : String) (v : PodGet) (pick : List Ent)
    (hpq : q ≠ p) (rq : Rec) (hq : dbGet s.db q = some rq) (s' : Svc) (ips : List Nat)
    (hadd : addBody s p cid v pick = (s', .ok ips)) (r' : Rec) (hr' : dbGet s'.db p = some r') :
    r'.eni = rq.eni → ∀ ip ∈ r'.ips, ip ∉ rq.ips := by
  have hI' := hI.body_pres (k := .add pick) trivial p cid v
  have hq' := (body_frame s (.add pick) p cid v).2.2 q hpq
  simp only [body, hadd] at hI' hq'
  exact fun he ip hi => hI'.noShare p q r' rq hr' (hq'.trans hq) (Ne.symm hpq) he ip hi

/-- after a restart every recorded address the cloud still reports is in the pool, valid, and bound to its pod -/
theorem c05_restart_keeps_acknowledged (s : Svc) (hI : Inv s) (cloud : List (String × Nat))
    (p : String) (r : Rec) (hr : dbGet s.db p = some r) (ip : Nat) (hi : ip ∈ r.ips) (hc : (r.eni, ip) ∈ cloud) :
    { eni := r.eni, ip := ip, owner := some p, valid := true } ∈ (restart s cloud).pool :=
  List.mem_map.mpr ⟨(r.eni, ip), hc, by simp only [ownerOf_recorded hI.dbKeys hI.noShare hr hi]⟩

/-- after a restart an address no record names is free: whatever a request that was never acknowledged (never
    recorded) took becomes reusable -/
theorem c05_restart_frees_unrecorded (s : Svc) (cloud : List (String × Nat)) (eni : String) (ip : Nat)
    (h : ∀ p r, (p, r) ∈ s.db → ¬ (r.eni = eni ∧ ip ∈ r.ips)) :
    ∀ e ∈ (restart s cloud).pool, e.eni = eni → e.ip = ip → e.owner = none := by
  intro e he h1 h2
  rw [owner_of_mem_restart he, h1, h2]
  exact ownerOf_eq_none_iff.mpr h

/-- the restarted pool holds exactly what the cloud reports, nothing of the old process's memory -/
theorem c05_restart_pool_is_cloud (s : Svc) (cloud : List (String × Nat)) :
    (restart s cloud).pool.map key = cloud ∧ (restart s cloud).pending = [] ∧ (restart s cloud).db = s.db :=
  ⟨restart_pool_keys s cloud, rfl, rfl⟩

/-- dying before the database write: the restarted service is as if the request had never been made -/
theorem c05_crash_before_write (s : Svc) (k : Kind) (p cid : String) (v : PodGet) (cloud : List (String × Nat)) :
    crash s k p cid v false cloud = restart s cloud := by
  simp [crash]

/-- dying after the database write (before the reply): the restarted service is the one restarted after
    the completed request -/
theorem c05_crash_after_write (s : Svc) (k : Kind) (p cid : String) (v : PodGet) (cloud : List (String × Nat)) :
    crash s k p cid v true cloud = restart { (body s k p cid v).1 with pending := s.pending } cloud := by
  obtain ⟨hcrd, hdual, _⟩ := body_frame s k p cid v
  simp only [crash, restart, if_true, hcrd, hdual]

/-- an acknowledged ADD is recorded (sandbox, interface, addresses) before the reply -/
theorem c05_ack_add_recorded (s s' : Svc) (p cid : String) (v : PodGet) (pick : List Ent) (ips : List Nat)
    (h : addBody s p cid v pick = (s', .ok ips)) :
    ∃ r, dbGet s'.db p = some r ∧ r.cid = cid ∧ r.ips = ips := by
  rcases addBody_cases s p cid v pick with e | ⟨_, _, _, e⟩ <;> rw [e] at h <;> cases h
  exact ⟨_, (dbGet_dbPut ..).trans (if_pos rfl), rfl, rfl⟩

open Store in
/-- completed writes: the mirror equals the file, and the file is the fold of the writes -/
theorem c05_store_mirror (ops : List (Bool × String × String)) :
    (ops.foldl write ⟨[], []⟩).mem = (ops.foldl write ⟨[], []⟩).disk ∧ (ops.foldl write ⟨[], []⟩).disk = disk ops := by
  rw [Store.foldl_write]; exact ⟨rfl, rfl⟩

/-- where a write can be cut short -/
inductive CutAt where
  | beforeDisk | betweenDiskAndMemory | afterMemory

open Store in
def cut (s : St) (o : Bool × String × String) : CutAt → St
  | .beforeDisk => s
  | .betweenDiskAndMemory => writeDisk s o
  | .afterMemory => write s o

open Store in
/-- SIGKILL at any instant of a write stream: after the acknowledged prefix `ops` and a cut anywhere in the
    next write `o`, the reopened store holds the state after `ops` or after `ops ++ [o]` — every
    acknowledged write is there, nothing else than the one in-flight write may be -/
theorem c05_kill_durable (ops : List (Bool × String × String)) (o : Bool × String × String) (c : CutAt) :
    let st := reopen (cut (ops.foldl write ⟨[], []⟩) o c)
    (st.mem = disk ops ∨ st.mem = disk (ops ++ [o])) ∧ st.mem = st.disk := by
  cases c <;> simp [cut, reopen, writeDisk, write, writeMem, Store.foldl_write, disk, List.foldl_append]

def e101 : Ent := { eni := "e1", ip := 101, owner := none, valid := true }
def e101p : Ent := { eni := "e1", ip := 101, owner := some "p1", valid := true }
def cloud0 : List (String × Nat) := [("e1", 101), ("e1", 102)]

/-- a served pod keeps its address over a restart, and a second pod is given the other one -/
example : (run (boot false false cloud0) [.req (.add [e101]) "p1" "c1" (.found false), .restart cloud0]).pool.map (·.owner)
    = [some "p1", none] := by decide

/-- the defect repaired by "fix: a canceled repeated allocation released the address the pod already held":
    a repeat ADD that fails after the pool served it leaves the pod's acknowledged address bound, so the next
    pod is given another one (before the repair the second pod's record named 101 as well) -/
theorem c05_failed_repeat_keeps_address :
    let s := run (boot false false cloud0)
      [.req (.add [e101]) "p1" "c1" (.found false),
       .req (.addFail [e101p] true) "p1" "c2" (.found false),
       .req (.add [{ eni := "e1", ip := 102, owner := none, valid := true }]) "p2" "c3" (.found false)]
    (dbGet s.db "p1").map (·.ips) = some [101] ∧ (dbGet s.db "p2").map (·.ips) = some [102] ∧
    s.pool.map (·.owner) = [some "p1", some "p2"] := by decide

/-- after the failed repeat ADD the pool refuses to give the held address to another pod -/
example : (run (boot false false cloud0)
      [.req (.add [e101]) "p1" "c1" (.found false),
       .req (.addFail [e101p] true) "p1" "c2" (.found false),
       .req (.add [e101]) "p2" "c3" (.found false)]).db.map (·.1) = ["p1"] := by decide

/-- what the restarted daemon hands to the pool is a sub-list of the stored record: nothing is invented -/
theorem c05_startup_filter_sublist (att : Stored.Attached) (rs out : List Stored.Item)
    (h : Stored.filter att rs = some out) : out.Sublist rs :=
  Stored.loop_sublist _ att _ _ _ rs out h

/-- every stored item whose interface is still attached reaches the pool: named by `eni_id`, or — records written
    without it — by the MAC in front of its `id`; items of other types always do -/
theorem c05_startup_filter_keeps_attached (att : Stored.Attached) (rs out : List Stored.Item)
    (h : Stored.filter att rs = some out) (it : Stored.Item) (hit : it ∈ rs)
    (hatt : it.eniIp = false ∨ (it.eniID ≠ "" ∧ ∃ e ∈ att, e.1 = it.eniID) ∨
            (it.eniID = "" ∧ ∃ e ∈ att, e.2 = Stored.idMac it.id)) : it ∈ out :=
  Stored.loop_keeps _ att _ _ _ rs out h it hit (Stored.stale_eq_false_iff.mpr hatt)

example : Stored.filter [("eni-1", "m1")] [⟨true, "", "m1.10.0.0.1"⟩] = some [⟨true, "", "m1.10.0.0.1"⟩] := by decide

end Terway.Props.C05
