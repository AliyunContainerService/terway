import TerwayModel.Proofs.PodEniProps
/-!
C10 — PodENI follows its state machine and an ENI is never pulled from a live pod.
Model: `TerwayModel/Model/PodEni.lean` (pod controller, PodENI controller, record collector and leaked-interface
collector for one pod name, one event per API-server / cloud call, every interleaving of the four actors with
the pod's life, with the clock and with failing calls).  Invariants: `Proofs/PodEni*.lean`, proved for every
accepted event; the theorems below quantify over all histories `evs` from the empty world, except
`c10_daemon_accepts_only_bound_record_of_that_instance` and `c10_reconciliation_ends_clean` (one event, any state).
Clause (c), that a deleted pod's interface and record go away, is a liveness clause: no theorem here (DESIGN.md §4 C10).
-/
namespace Terway.Props.C10
open Terway.PE

/-! ### (a) the phases a record goes through -/

/-- FULL STATEMENT (false of the model as of the code, see `c10_undocumented_edge_reachable`): every phase change is an
    edge of the documented life cycle (`documented`: initial → Bind, Bind → Detaching → Unbind → Binding → Bind,
    anything → Deleting). -/
def OnlyDocumented : Prop :=
  ∀ evs s ev t r r', run {} evs = some s → step s ev = some t → s.rcd = some r → t.rcd = some r' →
    r'.phase = r.phase ∨ documented r.phase r'.phase

/-- PARTIAL: every phase change in every history is a documented edge or one of the two known extra edges
    (`undocumented`: initial → Detaching and Binding → Detaching, for a fixed-address record whose pod went away
    before the attach completed; known findings `C10/phase/I-to-Dt`, `C10/phase/Bg-to-Dt`).
    In particular Unbind never goes back to Detaching (the defect repaired by 1c9af3e), nothing leaves Deleting,
    and Bind is only reached from the initial phase or from Binding. -/
theorem c10_phase_edges_partial {evs : List Ev} {s t : St} {ev : Ev} {r r' : Rec}
    (hreach : run {} evs = some s) (hs : step s ev = some t) (hr : s.rcd = some r) (hr' : t.rcd = some r') :
    r'.phase = r.phase ∨ documented r.phase r'.phase ∨ undocumented r.phase r'.phase :=
  phase_edge (Inv.init.run hreach) hs hr hr'

/-- witness: a fixed-address pod is created, gets its record, and finishes before the interface was attached -/
def wEvs : List Ev :=
  [.podCreate true true, .pStart, .pGetPod (.live 0 true), .pGetRec false, .pCloudCreate true 0 0,
   .pCreateRec [(0, .never)] .ok, .pDone, .podExit, .pStart, .pGetPod .exited, .pGetRec false]
def wR : Rec :=
  { ver := 0, phase := .initial, uid := 0, del := false, allocs := [{ eni := 0, ip := 0, strat := .never }], inst := none, lastSeen := none }
def wS : St := (run {} wEvs).getD {}
def wT : St := (step wS (.pStatus 0 .detaching .ok)).getD {}

/-- the extra edge really is reachable (so the full statement is false of the model, as it is of the code):
    a fixed-address pod finishes before its interface was attached -/
theorem c10_undocumented_edge_reachable : ¬ OnlyDocumented := by
  intro h
  have := h wEvs wS (.pStatus 0 .detaching .ok) wT wR { wR with ver := 1, phase := .detaching }
    (by decide) (by decide) (by decide) (by decide)
  simp [documented, wR] at this

/-- nothing ever leaves the Deleting phase -/
theorem c10_deleting_is_final {evs : List Ev} {s t : St} {ev : Ev} {r r' : Rec}
    (hreach : run {} evs = some s) (hs : step s ev = some t) (hr : s.rcd = some r) (hr' : t.rcd = some r')
    (hd : r.phase = .deleting) : r'.phase = .deleting := by
  rcases c10_phase_edges_partial hreach hs hr hr' with h | h | h
  · rw [h, hd]
  · simp [documented, hd] at h; exact h
  · simp [undocumented, hd] at h

/-- a record only disappears once its deletion has been requested -/
theorem c10_removed_only_when_deleting {evs : List Ev} {s t : St} {ev : Ev} {r : Rec}
    (hreach : run {} evs = some s) (hs : step s ev = some t) (hr : s.rcd = some r) (hr' : t.rcd = none) : r.del = true :=
  removed_del (Inv.init.run hreach) hs hr hr'

/-- … and deletion is requested only for a record that is in phase Deleting (the PodENI controller) or — the one
    path that does not pass through Deleting — is bound to another pod instance than the one that exists, has no
    fixed address and whose own instance is not running (the pod controller's direct delete) -/
theorem c10_delete_requested_only {evs : List Ev} {s t : St} {ev : Ev} {r r' : Rec}
    (hreach : run {} evs = some s) (hs : step s ev = some t) (hr : s.rcd = some r) (hr' : t.rcd = some r')
    (h0 : r.del = false) (h1 : r'.del = true) :
    (ev = .eDeleteRec .ok ∧ r.phase = .deleting) ∨ (ev = .pDeleteRec .ok ∧ r.fixed = false ∧ NotRunning s r.uid) :=
  del_requested (Inv.init.run hreach) hs hr hr' h0 h1

/-! ### (b) an interface is never pulled from a running pod instance -/

/-- in every history, whatever the interleaving of the two controllers, the two collectors, the pod's life, the
    clock and failing calls: no detach and no delete (`pulls`) ever hits an interface named by the record of the
    pod instance that exists and has not finished (`Protected`) -/
theorem c10_no_pull_from_running_pod {evs : List Ev} {s t : St} {ev : Ev} {id : Nat}
    (hreach : run {} evs = some s) (hs : step s ev = some t) (hp : pulls ev = some id) : ¬ Protected s id :=
  no_pull (Inv.init.run hreach) hs hp

/-- non-vacuity: a running pod with a bound record is a reachable state in which its interface is protected -/
def vEvs : List Ev :=
  [.podCreate true true, .pStart, .pGetPod (.live 0 true), .pGetRec false, .pCloudCreate true 0 0,
   .pCreateRec [(0, .elastic)] .ok, .pDone, .eStart, .eGetRec false, .eGetPod (.live 0 true), .eGetNode (some 1),
   .eAttach 0 1 true, .eWait 0 true, .eStatusBind 0 1 .ok, .eDone]
def vS : St := (run {} vEvs).getD {}
example : run {} vEvs = some vS ∧ Protected vS 0 :=
  ⟨by decide,
   ⟨{ ver := 1, phase := .bind, uid := 0, del := false, allocs := [{ eni := 0, ip := 0, strat := .elastic }], inst := some 1, lastSeen := none },
    { uid := 0, exited := false, needs := true, fixedName := true }, by decide, by decide, by decide, rfl, rfl⟩⟩

/-- the daemon hands an interface to a pod only under a record that is Bind for that pod's uid (pkg/eni/remote.go:
    120-171): the record that names a running pod instance is never on its way out -/
theorem c10_record_of_running_pod_stays {evs : List Ev} {s : St} {c : Rec} {q : Pod}
    (hreach : run {} evs = some s) (hc : s.rcd = some c) (hq : s.pod = some q) (hu : q.uid = c.uid) (hx : q.exited = false) :
    c.phase ≠ .detaching ∧ c.phase ≠ .deleting ∧ c.del = false := by
  have out := (Inv.init.run hreach).i2.fJ2 c hc
  have running : ¬ NotRunning s c.uid := fun h => by simpa [hx] using h q hq hu
  refine ⟨fun h => running (out (.inl h)), fun h => running (out (.inr (.inl h))), ?_⟩
  cases hd : c.del
  · rfl
  · exact absurd (out (.inr (.inr hd))) running

/-- the daemon (Remote.Allocate) takes a record's interfaces for pod instance `u` only when the record is Bind,
    not being deleted, owned by `u` and not empty; it refuses in every other case -/
theorem c10_daemon_accepts_only_bound_record_of_that_instance {s t : St} {u : Nat} {ok : Bool}
    (hs : step s (.dAccept u ok) = some t) :
    ok = true ↔ ∃ c, s.rcd = some c ∧ c.phase = .bind ∧ c.uid = u ∧ c.del = false ∧ c.allocs ≠ [] := by
  simp only [step, stepD] at hs
  split at hs
  · rename_i h
    rw [← daemonAccepts_iff, ← beq_iff_eq.mp h]
  · cases hs

/-! ### (d) failed creation is rolled back -/

/-- between reconciliations of the pod controller every interface in the cloud is somebody else's, named by the
    record, or was left behind by a roll-back whose own delete call failed -/
theorem c10_no_interface_without_record {evs : List Ev} {s : St} {en : Eni}
    (hreach : run {} evs = some s) (hidle : s.p = .idle) (hen : en ∈ s.cloud) :
    en.id ∈ s.ext ∨ (∃ c, s.rcd = some c ∧ en.id ∈ c.enis) ∨ en.id ∈ s.leaked :=
  Classical.not_not.mp fun h =>
    (Inv.init.run hreach).i4.fAcc en hen (fun h1 => h (.inl h1)) (fun h2 => h (.inr (.inr h2)))
      (fun c hc h3 => h (.inr (.inl ⟨c, hc, h3⟩))) (by simp [hidle]) (by simp [hidle])

/-- the pod controller cannot end a reconciliation while it still holds interfaces it created: it records them,
    deletes them, or a delete call failed -/
theorem c10_reconciliation_ends_clean {s t : St} (hs : step s .pDone = some t) :
    (∀ u made f, s.p = .creating u made f → made = []) ∧ (∀ rem, s.p = .rollback rem → rem = []) := by
  simp only [step, stepP] at hs
  constructor
  · intro u made f h; rw [h] at hs; cases made <;> simp_all
  · intro rem h; rw [h] at hs; cases rem <;> simp_all

/-- interfaces are only ever abandoned by a failed roll-back delete -/
theorem c10_leaked_only_by_failed_delete {evs : List Ev} {s t : St} {ev : Ev}
    (hreach : run {} evs = some s) (hs : step s ev = some t) (hl : t.leaked ≠ s.leaked) : failedDelete ev = true :=
  leaked_failedDelete hs hl

end Terway.Props.C10
