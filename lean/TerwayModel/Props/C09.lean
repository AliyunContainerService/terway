import TerwayModel.Proofs.Daemon
/-!
C09 — vanished pods are garbage-collected on the node; existing pods never are.
Model: `gcDecide` / `gcDb` / `gcPool` / `gcPass` in `Model/Daemon.lean`.
-/
namespace Terway.Props.C09
open Terway.Daemon

/-- the pods a pass must leave alone: live on the node, confirmed by the API server, or not confirmed absent
    because the lookup failed -/
def Keeps (g : GcView) (p : String) : Prop := p ∈ g.live ∨ apiExists g p ≠ some false

theorem gcDecide_keep_iff {crd : Bool} {g : GcView} {p : String} {r : Rec} :
    gcDecide crd g p r = .keep ↔ Keeps g p := by
  unfold gcDecide Keeps
  by_cases h : p ∈ g.live
  · simp [h]
  · simp only [h, if_false, false_or]
    cases apiExists g p with
    | none => simp
    | some b =>
      cases b with
      | true => simp
      | false =>
        simp only [ne_eq, not_true_eq_false, iff_false]
        split <;> simp

theorem gcDecide_of_not_keeps {crd : Bool} {g : GcView} {p : String} (h : ¬ Keeps g p) (r : Rec) :
    gcDecide crd g p r = if !crd && r.stick then .unstick else .collect := by
  simp only [Keeps, not_or, Decidable.not_not] at h
  simp [gcDecide, h.1, h.2]

theorem gcOut_of_keeps {crd : Bool} {g : GcView} {p : String} (h : Keeps g p) (r : Rec) : gcOut crd g p r = some r := by
  simp [gcOut, gcDecide_keep_iff.mpr h]

theorem gcOut_twice_of_not_keeps {crd : Bool} {g : GcView} {p : String} (h : ¬ Keeps g p) (r : Rec) :
    (gcOut crd g p r).bind (gcOut crd g p) = none := by
  cases crd <;> cases hs : r.stick <;> simp [gcOut, gcDecide_of_not_keeps h, hs]

/-- a pass never runs while a request is in flight (it needs the service's write lock) -/
theorem c09_excluded_while_in_flight (s : Svc) (g : GcView) (h : s.pending ≠ []) : gcPass s g = none := by
  simp [gcPass, h]

/-- a pod that is running, or whose absence the API server did not confirm, keeps its record and every
    address bound to it -/
theorem c09_existing_untouched (s s' : Svc) (g : GcView) (hk : (s.db.map (·.1)).Nodup) (p : String)
    (hkeep : Keeps g p) (h : gcPass s g = some s') :
    dbGet s'.db p = dbGet s.db p ∧ ∀ e ∈ s.pool, e.owner = some p → e ∈ s'.pool := by
  cases (gcPass_some h).2
  constructor
  · rw [gcDb_get hk]
    cases dbGet s.db p with
    | none => rfl
    | some r => exact gcOut_of_keeps hkeep r
  · intro e he ho
    refine (mem_gcPool_iff ho).mpr ⟨he, fun ⟨⟨q, r⟩, _, hc, _, _, hq⟩ => ?_⟩
    cases ho.symm.trans hq
    cases (gcDecide_keep_iff.mpr hkeep).symm.trans hc

/-- a record disappears only for a pod that is not live and that the API server confirmed absent -/
theorem c09_only_absent_collected (s s' : Svc) (g : GcView) (hk : (s.db.map (·.1)).Nodup) (p : String) (r : Rec)
    (hr : dbGet s.db p = some r) (h : gcPass s g = some s') (hgone : dbGet s'.db p = none) :
    p ∉ g.live ∧ apiExists g p = some false := by
  cases (gcPass_some h).2
  have hnk : ¬ Keeps g p := fun hk' => by
    simp [gcDb_get hk, hr, gcOut_of_keeps hk'] at hgone
  simpa [Keeps] using hnk

/-- within two passes the record of a vanished pod is gone and every address it names is unbound
    (a sticky address gets exactly one extra pass) -/
theorem c09_absent_collected_within_two_passes (s s1 s2 : Svc) (g : GcView) (hk : (s.db.map (·.1)).Nodup)
    (p : String) (hlive : p ∉ g.live) (habs : apiExists g p = some false)
    (h1 : gcPass s g = some s1) (h2 : gcPass s1 g = some s2) :
    dbGet s2.db p = none ∧
    ∀ r, dbGet s.db p = some r → ∀ e ∈ s2.pool, e.eni = r.eni → e.ip ∈ r.ips → e.owner ≠ some p := by
  cases (gcPass_some h1).2
  cases (gcPass_some h2).2
  have hnk : ¬ Keeps g p := by simp [Keeps, hlive, habs]
  have hk1 := (gcDb_keys_sublist s.crd g s.db).nodup hk
  constructor
  · show dbGet (gcDb s.crd g (gcDb s.crd g s.db)) p = none
    rw [gcDb_get hk1, gcDb_get hk]
    cases dbGet s.db p with
    | none => rfl
    | some r => exact gcOut_twice_of_not_keeps hnk r
  · intro r hr e he k1 k2 ho
    -- `e` came through both passes bound to `p`, so neither collected a record of `p` naming it;
    -- but the first collects the record, or clears its flag and the second collects it
    obtain ⟨he1, c2⟩ := (mem_gcPool_iff ho).mp he
    obtain ⟨_, c1⟩ := (mem_gcPool_iff ho).mp he1
    have htw := gcOut_twice_of_not_keeps (crd := s.crd) hnk r
    cases ho1 : gcOut s.crd g p r with
    | none => exact c1 ⟨(p, r), mem_of_dbGet hr, gcOut_eq_none.mp ho1, k1, k2, ho⟩
    | some r1 =>
      have hr1 : dbGet (gcDb s.crd g s.db) p = some r1 := by rw [gcDb_get hk, hr]; exact ho1
      obtain ⟨e1, e2⟩ := gcOut_some ho1
      rw [ho1] at htw
      exact c2 ⟨(p, r1), mem_of_dbGet hr1, gcOut_eq_none.mp htw, e1 ▸ k1, e2 ▸ k2, ho⟩

theorem gcDb_gcDb_keep (crd : Bool) (g : GcView) (db : List (String × Rec)) :
    ∀ pr ∈ gcDb crd g (gcDb crd g db), gcDecide crd g pr.1 pr.2 = .keep := by
  induction db with
  | nil => simp [gcDb]
  | cons hd t ih =>
    obtain ⟨p, r⟩ := hd
    by_cases hk : Keeps g p
    · have hg : gcDecide crd g p r = .keep := gcDecide_keep_iff.mpr hk
      simpa [gcDb, hg] using ih
    · have hg := gcDecide_of_not_keeps (crd := crd) hk
      cases hs : (!crd && r.stick) <;> simpa [gcDb, hg, hs] using ih

/-- after two passes over an unchanged world a third changes nothing -/
theorem c09_idempotent (s s1 s2 : Svc) (g : GcView) (hk : (s.db.map (·.1)).Nodup)
    (h1 : gcPass s g = some s1) (h2 : gcPass s1 g = some s2) : gcPass s2 g = some s2 := by
  obtain ⟨hp, rfl⟩ := gcPass_some h1
  cases (gcPass_some h2).2
  have hall := gcDb_gcDb_keep s.crd g s.db
  simp only [gcPass, hp, ne_eq, not_true_eq_false, if_false, gcDb_all_keep hall, gcPool_all_keep hall]

/-- the outcome of a pass for one pod depends on that pod's record and on what is known about that pod only: another
    pod's failing lookup, or another pod's record in whatever state, changes nothing for it -/
theorem c09_outcome_independent (crd : Bool) (g : GcView) (db db' : List (String × Rec))
    (hk : (db.map (·.1)).Nodup) (hk' : (db'.map (·.1)).Nodup) (q : String) (h : dbGet db q = dbGet db' q) :
    dbGet (gcDb crd g db) q = dbGet (gcDb crd g db') q := by
  rw [gcDb_get hk, gcDb_get hk', h]

/-- a pass keeps `Inv`: a recorded address stays bound to its pod, no two records name one address -/
theorem c09_pass_keeps_invariant (s s' : Svc) (g : GcView) (hI : Inv s) (h : gcPass s g = some s') : Inv s' :=
  hI.gc_pres h

/- non-vacuity: a vanished pod with a sticky address survives the first pass and is gone after the second, its
   address unbound; the live pod is untouched -/

def sDemo : Svc :=
  { db := [("gone", { cid := "c", eni := "e1", ips := [101], stick := true }), ("alive", { cid := "c", eni := "e1", ips := [102], stick := false })],
    pool := [{ eni := "e1", ip := 101, owner := some "gone", valid := true }, { eni := "e1", ip := 102, owner := some "alive", valid := true }],
    pending := [], crd := false, dual := false }
def gDemo : GcView := { live := ["alive"], exists_ := [("gone", some false)] }

example : (gcPass sDemo gDemo).map (·.db.map (·.1)) = some ["gone", "alive"] := by decide
example : ((gcPass sDemo gDemo).bind (gcPass · gDemo)).map (·.db.map (·.1)) = some ["alive"] := by decide
example : ((gcPass sDemo gDemo).bind (gcPass · gDemo)).map (·.pool.map (·.owner)) = some [none, some "alive"] := by decide

end Terway.Props.C09
