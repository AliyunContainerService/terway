import TerwayModel.Proofs.Pool
/-!
C01 — a node never hands the same IP to two live pods.
Model: `TerwayModel/Model/Pool.lean` (one transition = one lock region of `eni.Local`); invariant:
`TerwayModel/Proofs/Pool.lean`.
-/
namespace Terway.Props.C01
open Terway.Pool

/-- after ANY interleaving of lock regions (request path, reply goroutines, per-request workers, factory worker,
    dispose worker, balancer, sync) and ANY results of the cloud calls, from a fresh pool: every address has one entry
    (hence one owner), nothing marked for unassignment is held, the addresses of a reply on its way are bound to its pod -/
theorem c01_invariant_all_interleavings (cfg : Cfg) (n : Nat) (hb : cfg.batch ≤ cfg.cap) (evs : List Ev) (p : Pool)
    (hr : (Pool.init cfg n).run evs = some p) : p.Inv :=
  ((Pool.Inv.init cfg n).run hb evs hr).1

/-- an address has one entry on its interface: two pods cannot both be its owner -/
theorem c01_one_owner_per_address (p : Pool) (h : p.Inv) (i : Nat) (a b : IP) (ha : a ∈ (p.slot i).ips) (hb : b ∈ (p.slot i).ips)
    (e : a.ip = b.ip) : a.owner = b.owner := by
  rw [(h.slotOK i).keys.eq ha hb e]

/-- a request served at once gets entries of that interface that are the pod's own, or valid and held by nobody -/
theorem c01_direct_serves_own_or_free (p p' : Pool) (h : p.Inv) (i : Nat) (r : Req) (pin : String) (pick : List IP)
    (hs : p.step (.allocate i r pin (.direct pick)) = some p') :
    ∀ a ∈ pick, a ∈ (p.slot i).ips ∧ a.st ≠ .deleting ∧ (a.owner = some r.pod ∨ (a.owner = none ∧ a.st = .valid)) := by
  simp only [Pool.step, Option.ite_none_right_eq_some, Bool.and_eq_true] at hs
  intro a ha
  have hp := List.all_eq_true.mp (allocOutcome_direct hs.1.1) a ha
  exact ⟨(peekOK_own_or_free hp).1, peekOK_not_deleting (h.slotOK i).del hp, (peekOK_own_or_free hp).2⟩

/-- a request that had to wait for the cloud gets from its worker entries that are the pod's own or held by nobody -/
theorem c01_worker_serves_own_or_free (p p' : Pool) (h : p.Inv) (i r : Nat) (pick : List IP) (d : Bool)
    (hs : p.step (.workerServe i r pick d) = some p') :
    ∃ rq, p.req? r = some rq ∧ ∀ a ∈ pick, a ∈ (p.slot i).ips ∧ a.st ≠ .deleting ∧ (a.owner = some rq.pod ∨ a.owner = none) := by
  simp only [Pool.step] at hs
  split at hs
  · next rq hrq =>
    simp only [Option.ite_none_right_eq_some, Bool.and_eq_true] at hs
    refine ⟨rq, hrq, fun a ha => ?_⟩
    have hp := List.all_eq_true.mp hs.1.2 a ha
    exact ⟨(peekOK_own_or_free hp).1, peekOK_not_deleting (h.slotOK i).del hp, (peekOK_own_or_free hp).2.imp_right And.left⟩
  · cases hs

/-- a repeated request for a pod that holds an address of the family on the interface is served with it, not another -/
theorem c01_repeat_served_with_held (l : List IP) (pod : String) (six : Bool) (a held : IP)
    (hp : pod ≠ "") (hh : held ∈ l) (hf : held.v6 = six) (ho : held.owner = some pod) (hk : peekOK l pod six a = true) :
    a.owner = some pod := by
  obtain ⟨_, _, hc⟩ := peekOK_iff.mp hk
  rwa [if_pos ⟨hp, List.any_eq_true.mpr ⟨held, by simp [fam, hh, hf], by simp [ho]⟩⟩] at hc

/-- between `Local.Allocate` binding the addresses and the reply being handed over no other request can take them -/
theorem c01_reply_addresses_stay_bound (p : Pool) (h : p.Inv) (c : Pending) (hc : c ∈ p.commits) :
    ∀ ip ∈ c.pick, ∃ a ∈ (p.slot c.slot).ips, a.ip = ip ∧ a.owner = some c.pod :=
  h.commits c hc

/-- an address the periodic sync has seen removed from the cloud is no longer valid, hence only offered to the pod that
    holds it -/
theorem c01_removed_address_not_offered (l : List IP) (remote : List Nat) (pod : String) (six : Bool) (a : IP)
    (ha : a ∈ syncIPs l remote) (hr : a.ip ∉ remote) (hk : peekOK (syncIPs l remote) pod six a = true) : a.owner = some pod := by
  refine (peekOK_own_or_free hk).2.resolve_right fun hv => ?_
  rcases List.mem_map_ite.mp ha with ⟨b, _, _, rfl⟩ | ⟨_, hc⟩
  · cases hv.2
  · exact hc ⟨hv.2, hr⟩

/-- an address the dispose worker has been given (marked for unassignment) is never offered either -/
theorem c01_deleting_address_not_offered (p : Pool) (h : p.Inv) (i : Nat) (pod : String) (six : Bool) (a : IP)
    (hk : peekOK (p.slot i).ips pod six a = true) : a.st ≠ .deleting :=
  peekOK_not_deleting (h.slotOK i).del hk

-- non-vacuity: an interleaving the model accepts

def cfg0 : Cfg := { cap := 2, batch := 1, en4 := true, en6 := false }
def r1 : Req := { id := 1, pod := "p1", nocache := false }

example : ((Pool.init cfg0 1).run
    [.allocate 0 r1 "" .queued, .faPlanned 0,
     .faCreated 0 1 0 { eni := some "eni-1", primary := 101, v4 := [101], v6 := [], err := none },
     .workerServe 0 1 [{ ip := 101, owner := none, st := .valid, primary := true }] true]).map
      (fun p => (p.slot 0).ips.map (·.owner)) = some [some "p1"] := by decide

end Terway.Props.C01
