import TerwayModel.Proofs.Ipam
/-!
C02 — cluster IPAM binds each IP to one pod and each pod to one ENI.
`assignOK` (Model/Ipam.lean) relates the per-node record before and after `assignIPFromLocalPool`: every outcome of the
real function must satisfy it (correspondence check), and everything it admits satisfies the statements below.
-/
namespace Terway.Props.C02
open Terway.Ipam

/-- an address is bound to at most one pod: the record has one `podID` per address entry, and the assignment step
    never moves a binding from one pod to another -/
theorem c02_binding_never_moves (erdmaOn : Bool) (pods : List Pod) (pre post : Record) (e : Eni) (x y : Entry)
    (h : entryChangeOK erdmaOn pods pre post e x y = true) : x.pod = y.pod ∨ x.pod = "" :=
  (entryChangeOK_iff.mp h).2.2.2.imp And.left And.left

/-- a new binding goes to a pod of the node that needs an address of that family and has none; the address is the one
    the pod already reports (re-adoption) or — when it reports none — a valid unbound address on an interface in use (an
    RDMA interface for an RDMA pod, none for another pod when RDMA is enabled), IPv6 on the interface of its IPv4 -/
theorem c02_new_binding_sound (erdmaOn : Bool) (pods : List Pod) (pre post : Record) (e : Eni) (x y : Entry)
    (h : entryChangeOK erdmaOn pods pre post e x y = true) (hn : x.pod = "") (hy : y.pod ≠ "") :
    ∃ p, podOf pods y.pod = some p ∧ y.uid = p.uid ∧ p.needs x.six = true ∧ boundTo pre p.id x.six = [] ∧
      y.ip = x.ip ∧ y.status = x.status ∧
      (match p.reported x.six with
       | some ip => ip = x.ip
       | none => e.status = .inUse ∧ x.status = .valid ∧ (if p.erdma then e.hp = true else ¬ (erdmaOn = true ∧ e.hp = true)) ∧
                 (x.six = true → v6Follows post p e = true)) := by
  obtain ⟨hip, hst, _, ⟨hxy, _⟩ | ⟨_, _, p, hp, hu, hneed, hemp, hrep⟩⟩ := entryChangeOK_iff.mp h
  · exact absurd (hxy ▸ hn) hy
  · refine ⟨p, hp, hu, hneed, hemp, hip.symm, hst.symm, ?_⟩
    split at hrep
    · next hr => rw [hr]; exact hrep
    · next hr =>
      rw [hr]
      obtain ⟨s1, s2, _, s4⟩ := eligible_iff.mp hrep.1
      exact ⟨s1, s2, s4, hrep.2⟩

/-- a pod is bound to at most one address of each family: the step never gives a second one (`max 1 …` covers
    records taken over in a malformed state, which it does not make worse) -/
theorem c02_one_address_per_family (erdmaOn : Bool) (pods : List Pod) (pre post : Record) (h : assignOK erdmaOn pods pre post = true)
    (p : Pod) (hp : p ∈ pods) (six : Bool) : (boundTo post p.id six).length ≤ max 1 (boundTo pre p.id six).length := by
  unfold assignOK at h
  simp only [Bool.and_eq_true, List.all_eq_true, decide_eq_true_eq] at h
  obtain ⟨⟨_, h⟩, _⟩ := h
  exact h p hp six (by cases six <;> simp)

/-- from a record in which every pod has at most one address per family, so has the result -/
theorem c02_wellformed_preserved (erdmaOn : Bool) (pods : List Pod) (pre post : Record) (h : assignOK erdmaOn pods pre post = true)
    (hw : ∀ p ∈ pods, ∀ six, (boundTo pre p.id six).length ≤ 1) : ∀ p ∈ pods, ∀ six, (boundTo post p.id six).length ≤ 1 :=
  fun p hp six => Nat.le_trans (c02_one_address_per_family erdmaOn pods pre post h p hp six)
    (Nat.max_le.mpr ⟨Nat.le_refl 1, hw p hp six⟩)

/-- the step changes bindings only: no address appears, disappears or changes status -/
theorem c02_entries_kept (erdmaOn : Bool) (pods : List Pod) (pre post : Record) (e : Eni) (x y : Entry)
    (h : entryChangeOK erdmaOn pods pre post e x y = true) : x.ip = y.ip ∧ x.status = y.status ∧ x.primary = y.primary :=
  have ⟨h1, h2, h3, _⟩ := entryChangeOK_iff.mp h
  ⟨h1, h2, h3⟩

/-! ## non-vacuity -/

def x1 : Entry := { ip := 101, status := .valid, pod := "", uid := "", primary := true }
def x2 : Entry := { ip := 1000101, status := .valid, pod := "", uid := "", primary := false }
def y1 : Entry := { ip := 101, status := .valid, pod := "p1", uid := "u1", primary := true }
def y2 : Entry := { ip := 1000101, status := .valid, pod := "p1", uid := "u1", primary := false }
def eA : Eni := { id := "eni-1", status := .inUse, typ := .secondary, hp := false, ips := [x1, x2] }
def eB : Eni := { id := "eni-1", status := .inUse, typ := .secondary, hp := false, ips := [y1, y2] }
def p1 : Pod := { id := "p1", uid := "u1", need4 := true, need6 := true, erdma := false, ip4 := none, ip6 := none }
def p1v4 : Pod := { id := "p1", uid := "u1", need4 := true, need6 := false, erdma := false, ip4 := none, ip6 := none }

example : assignOK false [p1] [eA] [eB] = true := by decide
/-- leaving the pod without address although one is free is not an admitted outcome in single stack -/
example : assignOK false [p1v4] [eA] [eA] = false := by decide

/-- a pod is asked an RDMA interface for only if RDMA is enabled on the node and one of ITS OWN containers has a
    non-zero RDMA limit — whatever other pods are listed before or after it -/
theorem c02_rdma_only_for_rdma_pods (en4 en6 erdmaOn : Bool) (before after : List RawPod) (p : RawPod)
    (r : String × Bool × Bool × Bool) (hr : r ∈ getPods en4 en6 erdmaOn (before ++ p :: after)) (hn : r.1 = p.name)
    (huniq : ∀ q ∈ before ++ after, q.name ≠ p.name) :
    r.2.2.2 = (erdmaOn && (p.erdmaInit || p.erdmaMain)) := by
  obtain ⟨q, hq, hc⟩ := List.mem_filterMap.mp hr
  obtain rfl := classify_eq_some hc
  have : q = p := Decidable.by_contra fun hne => huniq q (by simpa [hne] using hq) hn
  rw [this]

/-- cloud drift, the merge of the full synchronisation: an address known to both the record and the cloud keeps its
    recorded entry — one bound to a pod stays bound and valid whatever state the cloud reports it in -/
theorem c02_merge_keeps_known (remote current : List Entry) (x : Entry) (hx : x ∈ current)
    (hr : ∃ r ∈ remote, r.ip = x.ip) : x ∈ mergeEntries remote current :=
  mem_mergeEntries.mpr (.inl ⟨hx, hr⟩)

/-- after the merge the record holds exactly the addresses the cloud reports -/
theorem c02_merge_ips (remote current : List Entry) (ip : Nat) :
    (∃ x ∈ mergeEntries remote current, x.ip = ip) ↔ (∃ r ∈ remote, r.ip = ip) := by
  simp only [mem_mergeEntries]
  constructor
  · rintro ⟨x, ⟨_, hr⟩ | ⟨hr, _⟩, rfl⟩
    · exact hr
    · exact ⟨x, hr, rfl⟩
  · rintro ⟨r, hr, rfl⟩
    by_cases hc : ∃ c ∈ current, c.ip = r.ip
    · obtain ⟨c, hc, hip⟩ := hc
      exact ⟨c, .inl ⟨hc, r, hr, hip.symm⟩, hip⟩
    · exact ⟨r, .inr ⟨hr, hc⟩, rfl⟩

/-- the merge binds nothing: an entry of the result is a recorded entry or is what the cloud reported -/
theorem c02_merge_no_new_binding (remote current : List Entry) (x : Entry) (hx : x ∈ mergeEntries remote current) :
    x ∈ current ∨ x ∈ remote :=
  (mem_mergeEntries.mp hx).imp And.left And.left

example : mergeEntries [{ ip := 1, status := .deleting, pod := "", uid := "", primary := false }, { ip := 3, status := .valid, pod := "", uid := "", primary := false }]
    [{ ip := 1, status := .valid, pod := "p", uid := "u", primary := false }, { ip := 2, status := .valid, pod := "", uid := "", primary := false }] =
    [{ ip := 1, status := .valid, pod := "p", uid := "u", primary := false }, { ip := 3, status := .valid, pod := "", uid := "", primary := false }] := by decide

end Terway.Props.C02
