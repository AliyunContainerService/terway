import TerwayModel.Props.C02
import TerwayModel.Props.C04
import TerwayModel.Proofs.Agent
/-!
C03 — an address is reclaimed only after the pod is gone and its teardown confirmed.
Controller side: `release` (releasePodNotFound), `trimEniOK` (releaseUnUsedIP), `assignOK` in `Model/Ipam.lean`.
Node-agent side: the DEL path of the daemon model (`Model/Daemon.lean`) and what the agent writes into the NodeRuntime
object (`Model/Agent.lean`).
-/
namespace Terway.Props.C03
open Terway.Ipam

/-- an address is unbound by the release step only when its pod is not on the node any more and — unless
    the binding is a legacy one without UID — the node agent's latest report for that UID is `deleted` -/
theorem c03_release_only_when_gone_and_confirmed (pods : List Pod) (rt : Runtime) (x : Entry)
    (hb : x.pod ≠ "") (hu : (releaseEntry pods rt x).pod ≠ x.pod) :
    podOf pods x.pod = none ∧ (x.uid = "" ∨ rt x.uid = some true) := by
  rw [releaseEntry_pod] at hu
  exact Decidable.by_contra fun hc => hu (if_neg hc)

/-- conversely, such a binding is cleared -/
theorem c03_release_when_gone_and_confirmed (pods : List Pod) (rt : Runtime) (x : Entry)
    (hg : podOf pods x.pod = none) (hc : x.uid = "" ∨ rt x.uid = some true) : (releaseEntry pods rt x).pod = "" := by
  rw [releaseEntry_pod, if_pos ⟨hg, hc⟩]

/-- the pod exists: its address stays bound (only the UID is re-stamped) -/
theorem c03_release_keeps_existing (pods : List Pod) (rt : Runtime) (x : Entry) (p : Pod) (hp : podOf pods x.pod = some p)
    (hb : x.pod ≠ "") : (releaseEntry pods rt x).pod = x.pod ∧ (releaseEntry pods rt x).uid = p.uid := by
  unfold releaseEntry
  rw [if_neg hb, hp]
  exact ⟨rfl, rfl⟩

/-- the release step never touches address, status or primary flag, and binds nothing -/
theorem c03_release_changes_binding_only (pods : List Pod) (rt : Runtime) (x : Entry) :
    (releaseEntry pods rt x).ip = x.ip ∧ (releaseEntry pods rt x).status = x.status ∧ (releaseEntry pods rt x).primary = x.primary ∧
    ((releaseEntry pods rt x).pod = x.pod ∨ (releaseEntry pods rt x).pod = "") := by
  unfold releaseEntry
  split
  · exact ⟨rfl, rfl, rfl, Or.inl rfl⟩
  · split
    · exact ⟨rfl, rfl, rfl, Or.inl rfl⟩
    · split
      · split
        · exact ⟨rfl, rfl, rfl, Or.inr rfl⟩
        · exact ⟨rfl, rfl, rfl, Or.inl rfl⟩
      · exact ⟨rfl, rfl, rfl, Or.inr rfl⟩

/-- when the NodeRuntime object cannot be read nothing is released -/
theorem c03_release_needs_runtime (pods : List Pod) (r : Record) : release pods none r = r := rfl

/-- the whole record: every interface keeps its identity, every entry is the released form of the entry at its place -/
theorem c03_release_is_entrywise (pods : List Pod) (rt : Runtime) (r : Record) :
    release pods (some rt) r = r.map fun e => { e with ips := e.ips.map (releaseEntry pods rt) } := rfl

/-- whatever `releaseUnUsedIP` does to an interface: an entry changes only from valid to deleting and only when
    it is bound to nobody and not primary; bindings are untouched; the interface as a whole is given up only
    when nothing on it is bound and it is an ordinary secondary interface -/
theorem c03_trim_only_idle (a b : Eni) (toDel : Int) (n : Int) (h : trimEniOK a b toDel = some n) :
    (b.status ≠ a.status → inUseN a.ips = 0 ∧ a.typ = .secondary ∧ a.hp = false ∧ b.ips = a.ips) ∧
    (∀ xy ∈ a.ips.zip b.ips, xy.1.pod = xy.2.pod ∧ xy.1.uid = xy.2.uid ∧ xy.1.ip = xy.2.ip ∧
      (xy.1.status ≠ xy.2.status → xy.1.pod = "" ∧ xy.1.primary = false ∧ xy.2.status = .deleting)) := by
  unfold trimEniOK at h
  obtain ⟨_, h⟩ := Option.ite_none_left_eq_some.mp h
  by_cases hw : trimWhole a toDel = true
  · rw [if_pos hw] at h
    obtain ⟨hb, _⟩ := Option.ite_none_right_eq_some.mp h
    simp only [Bool.and_eq_true, beq_iff_eq] at hb
    simp only [trimWhole, Bool.and_eq_true, beq_iff_eq, Bool.not_eq_true', and_assoc] at hw
    obtain ⟨h0, _, _, hs, hh⟩ := hw
    refine ⟨fun _ => ⟨h0, hs, hh, hb.2.symm⟩, fun xy hxy => ?_⟩
    rw [← hb.2, List.zip_eq_zipWith, List.zipWith_self] at hxy
    obtain ⟨x, _, rfl⟩ := List.mem_map.mp hxy
    exact ⟨rfl, rfl, rfl, fun hne => absurd rfl hne⟩
  · rw [if_neg hw] at h
    obtain ⟨hst, h⟩ := Option.ite_none_left_eq_some.mp h
    obtain ⟨hc, _⟩ := Option.ite_none_right_eq_some.mp h
    simp only [trimEntriesOK, Bool.and_eq_true, List.all_eq_true, beq_iff_eq, Bool.or_eq_true, Bool.not_eq_true',
      and_assoc] at hc
    refine ⟨fun hne => absurd (by simpa using hst : a.status = b.status).symm hne, fun xy hxy => ?_⟩
    obtain ⟨hip, hpod, huid, _, hstat⟩ := hc.1 xy hxy
    exact ⟨hpod, huid, hip, fun hne => hstat.elim (absurd · hne) fun ⟨_, hd, hp, hpr⟩ => ⟨hp, hpr, hd⟩⟩

/-- `assignIPFromLocalPool` leaves every existing binding where it is (since the repair c284911: also the IPv4
    binding of a pod for which no IPv6 address can be found) -/
theorem c03_assign_never_unbinds (erdmaOn : Bool) (pods : List Pod) (pre post : Record) (e : Eni) (x y : Entry)
    (h : entryChangeOK erdmaOn pods pre post e x y = true) (hb : x.pod ≠ "") : y.pod = x.pod :=
  ((C02.c02_binding_never_moves erdmaOn pods pre post e x y h).resolve_right hb).symm

open Terway.Daemon in
/-- a DEL for another sandbox than the recorded one (an old sandbox of a pod set up again) touches neither the record
    nor the pool: nothing is reported as torn down for the new sandbox -/
theorem c03_agent_ignores_stale_del (s : Svc) (p cid : String) (v : PodGet) (r : Rec)
    (hr : dbGet s.db p = some r) (hc : cid ≠ r.cid) : (delBody s p cid v).1 = s :=
  C04.c04_stale_del_no_effect s p cid v r hr hc

/-- in every history of processed DELs, report passes, IPAM reconciliations of the NodeRuntime, clean-up passes (any
    answers of the API server, failed look-ups included) and failed writes: a pod UID is reported as torn down (`deleted`
    stamp) only if the daemon processed a CNI DEL for it or a clean-up pass was answered "no such pod on this node" -/
theorem c03_agent_reports_only_processed_or_verified (evs : List Agent.Ev) (e : Agent.Entry)
    (he : e ∈ (Agent.run {} evs).rt) (hd : e.deleted = true) :
    e.uid ∈ (Agent.run {} evs).dels ∨ e.uid ∈ (Agent.run {} evs).verified :=
  (Agent.Inv.init.run evs).1 e he hd

/-- one clean-up pass stamps `deleted` only on entries that are not recorded locally, whose `initial` stamp is older
    than 30 s, whose pod id is well-formed and for which the API server answered "absent": a failed look-up
    (`Verdict.failed`) or a present pod never leads to a report -/
theorem c03_agent_clean_needs_absent (s : Agent.St) (l : List Nat) (v : Nat → Agent.Verdict) (ok : Bool) (e : Agent.Entry)
    (he : e ∈ (Agent.step s (.clean l v ok)).rt) (hd : e.deleted = true) :
    (∃ e0 ∈ s.rt, e0.uid = e.uid ∧ e0.deleted = true) ∨
    (v e.uid = .absent ∧ e.uid ∉ l ∧ ∃ e0 ∈ s.rt, e0.uid = e.uid ∧ e0.recent = false ∧ e0.okID = true) := by
  obtain ⟨e0, he0, hu, hd0 | hc⟩ := Agent.clean_deleted he hd
  · exact .inl ⟨e0, he0, hu, hd0⟩
  · simp only [Agent.cleanHits, Bool.and_eq_true, Bool.not_eq_true', beq_iff_eq, and_assoc] at hc
    obtain ⟨hl, _, h3, h4, h5⟩ := hc
    exact .inr ⟨hu ▸ h5, hu ▸ by simpa using hl, e0, he0, hu, h3, h4⟩

/-- a processed DEL is reported by the next report pass that succeeds -/
theorem c03_agent_processed_del_reported (s : Agent.St) (uid : Nat) (okID : Bool) :
    ∃ e ∈ (Agent.step (Agent.step s (.del uid okID)) (.sync true)).rt, e.uid = uid ∧ e.deleted = true := by
  rw [Agent.sync_rt]
  exact Agent.deleted_foldl_setDeleted.mpr (.inr ⟨_, Agent.del_pending s uid okID, rfl⟩)

/-! ## non-vacuity -/

example : ((Agent.run {} [.back [(1, true)] true, .age, .clean [] (fun _ => .failed) true]).rt.map (·.deleted)) = [false] := by decide
example : ((Agent.run {} [.back [(1, true)] true, .age, .clean [] (fun _ => .absent) true]).rt.map (·.deleted)) = [true] := by decide
example : ((Agent.run {} [.back [(1, true)] true, .clean [] (fun _ => .absent) true]).rt.map (·.deleted)) = [false] := by decide


def x0 : Entry := { ip := 102, status := .valid, pod := "p1", uid := "u1", primary := false }

example : (releaseEntry [] (fun u => if u = "u1" then some true else none) x0).pod = "" := by decide
example : (releaseEntry [] (fun _ => some false) x0).pod = "p1" := by decide
example : (releaseEntry [] (fun _ => none) x0).pod = "p1" := by decide
example : (releaseEntry [{ id := "p1", uid := "u2", need4 := true, need6 := false, erdma := false, ip4 := none, ip6 := none }]
    (fun _ => some true) x0).uid = "u2" := by decide

end Terway.Props.C03
