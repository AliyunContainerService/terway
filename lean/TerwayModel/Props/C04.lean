import TerwayModel.Proofs.Daemon
/-!
C04 — stale, duplicate and concurrent CNI requests are harmless.
Model: `Model/Daemon.lean`.
-/
namespace Terway.Props.C04
open Terway.Daemon

/-- while a request for `p` is in flight, any other request for `p` is answered `processing` and has no effect -/
theorem c04_concurrent_rejected (s : Svc) (k : Kind) (p cid : String) (v : PodGet) (h : p ∈ s.pending) :
    request s k p cid v = (s, .processing) := by
  simp [request, h]

/-- once a request for `p` has passed the guard, and until it leaves, a second one, whole or entering, is answered
    `processing` -/
theorem c04_rejected_until_leave (s : Svc) (k : Kind) (p cid : String) (v : PodGet) (h : p ∉ s.pending) :
    let s' := (enter s p).1
    request s' k p cid v = (s', .processing) ∧ enter s' p = (s', .processing) := by
  simp [enter, request, h]

/-- a request for another pod is not held up -/
theorem c04_other_pod_served (s : Svc) (k : Kind) (q cid : String) (v : PodGet) (h : q ∉ s.pending) :
    request s k q cid v = body s k q cid v := by
  simp [request, h]

/-- when the in-flight request finishes the pod can be served again -/
theorem c04_leave_clears (s : Svc) (k : Kind) (p cid : String) (v : PodGet) (h : s.pending = [p]) :
    (leave s k p cid v).1.pending = [] := by
  simp [leave, h]

/-- a DEL carrying another sandbox ID than the recorded one releases nothing -/
theorem c04_stale_del_no_effect (s : Svc) (p cid : String) (v : PodGet) (r : Rec)
    (hr : dbGet s.db p = some r) (hc : cid ≠ r.cid) : (delBody s p cid v).1 = s := by
  unfold delBody
  cases v <;> simp [hr, hc]

/-- a status query carrying another sandbox ID does not return the current allocation -/
theorem c04_stale_get_hides (s : Svc) (p cid : String) (v : PodGet) (r : Rec)
    (hr : dbGet s.db p = some r) (hc : cid ≠ r.cid) :
    (getBody s p cid v).2 = .ok [] ∨ (getBody s p cid v).2 = .err := by
  unfold getBody
  cases v <;> simp [hr, hc]

/-- a status query never changes anything -/
theorem c04_get_no_effect (s : Svc) (p cid : String) (v : PodGet) : (getBody s p cid v).1 = s :=
  getBody_fst s p cid v

/-- repeating a completed ADD (whatever sandbox ID it carries) returns the address the pod holds -/
theorem c04_repeat_add_same_address (s : Svc) (hI : Inv s) (p cid : String) (v : PodGet) (pick : List Ent) (r : Rec)
    (hr : dbGet s.db p = some r)
    (hatt : ∀ ip ∈ r.ips, ∃ e ∈ s.pool, e.eni = r.eni ∧ e.ip = ip)
    (s' : Svc) (ips : List Nat) (hadd : addBody s p cid v pick = (s', .ok ips)) : ips = r.ips := by
  rcases addBody_cases s p cid v pick with e | ⟨_, eni, sp, e⟩ <;> rw [e] at hadd <;> cases hadd
  have hsh := hI.shape p r hr
  refine Shape.eq_of_subset sp.shape hsh fun a ha => ?_
  obtain ⟨pe, hpe, rfl⟩ := List.mem_map.mp ha
  -- the record has an address of the same family; its entry is the pod's own, so the pool offers nothing else
  obtain ⟨b, hb, hfam⟩ := sp.shape.exists_same_fam ha hsh
  obtain ⟨eb, hebm, heb1, rfl⟩ := hatt b hb
  exact sp.recorded_of_ownIn hI hr hpe ⟨eb, hebm, heb1.trans (sp.pin r hr), hfam, hI.bound p r hr eb hebm heb1 hb⟩

/-- a DEL for a pod without a record is a no-op -/
theorem c04_del_without_record_noop (s : Svc) (p cid : String) (v : PodGet) (h : dbGet s.db p = none) :
    (delBody s p cid v).1 = s := by
  unfold delBody
  cases v <;> simp [h]

/-- repeating a DEL is a no-op -/
theorem c04_repeat_del_noop (s : Svc) (p cid : String) (v : PodGet) :
    (delBody (delBody s p cid v).1 p cid v).1 = (delBody s p cid v).1 := by
  rcases delBody_cases s p cid v with e | ⟨r, _, e⟩ <;> rw [e]
  · rw [e]
  · exact c04_del_without_record_noop _ p cid v (by simp [collectOne, dbGet_dbDel])

/-- an acknowledged DEL of the current sandbox of a non-sticky pod removes the record and unbinds its addresses -/
theorem c04_del_releases (s : Svc) (p : String) (r : Rec) (hr : dbGet s.db p = some r) :
    let s' := (delBody s p r.cid (.found false)).1
    dbGet s'.db p = none ∧ ∀ e ∈ s'.pool, e.eni = r.eni → e.ip ∈ r.ips → e.owner ≠ some p := by
  have h1 : (delBody s p r.cid (.found false)).1 = collectOne s p r := by
    simp [delBody, hr, collectOne]
  simp only [h1]
  exact ⟨by simp [collectOne, dbGet_dbDel], fun e he => owner_ne_of_mem_release he⟩

/-- failing before the pool was asked (pod lookup failed, or no interface can serve): nothing changes -/
theorem c04_failed_add_before_pool (s : Svc) (p cid : String) (v : PodGet) (pick : List Ent)
    (h : v ≠ .found true ∧ v ≠ .found false ∨ pick = []) : addBody s p cid v pick = (s, .err) := by
  unfold addBody
  rcases h with ⟨h1, h2⟩ | h
  · cases v with
    | found st => cases st <;> simp_all
    | notFound => rfl
    | error => rfl
  · cases v <;> simp [h]

/-- failing after the pool served it (the request context ended), the addresses handed back: the service is as before
    the request.  The model has no state in between with the pick bound, so this says at once: what was taken is free
    again, what the pod held before is still the pod's, nothing else changed. -/
theorem c04_failed_add_hands_back (s : Svc) (hI : Inv s) (p : String) (pick : List Ent) :
    (addFailBody s p pick true).1 = s :=
  addFail_good_noop hI

/-- no request for `p` changes what another pod `q` has: its record, and the binding of every address the
    record names -/
theorem c04_other_pods_untouched (s : Svc) (hI : Inv s) (k : Kind) (hk : k.Good) (p q cid : String) (v : PodGet)
    (hq : q ≠ p) (r : Rec) (hr : dbGet s.db q = some r) :
    let s' := (body s k p cid v).1
    dbGet s'.db q = some r ∧ ∀ e ∈ s'.pool, e.eni = r.eni → e.ip ∈ r.ips → e.owner = some q := by
  have hdb : dbGet (body s k p cid v).1.db q = some r := ((body_frame s k p cid v).2.2 q hq).trans hr
  exact ⟨hdb, (hI.body_pres hk p cid v).bound q r hdb⟩

def e101 : Ent := { eni := "e1", ip := 101, owner := none, valid := true }
def s0 : Svc := boot false false [("e1", 101), ("e1", 102)]

/-- the hypotheses of the theorems above are met by a concrete served pod -/
example : (addBody s0 "p1" "c1" (.found false) [e101]).2 = .ok [101] := by decide
example : dbGet (addBody s0 "p1" "c1" (.found false) [e101]).1.db "p1" = some { cid := "c1", eni := "e1", ips := [101], stick := false } := by decide
example : Inv s0 := Inv.of_boot false false (by decide)

/-- the defect repaired by "fix: eni manager loses resources handed over after the request context is
    done": a failing ADD that keeps what it took leaves an address bound to a pod without a record -/
theorem c04_kept_address_is_a_leak :
    let s' := (addFailBody s0 "p1" [e101] false).1
    dbGet s'.db "p1" = none ∧ { e101 with owner := some "p1" } ∈ s'.pool := by decide

end Terway.Props.C04
