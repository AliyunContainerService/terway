import TerwayModel.Proofs.Capacity
/-!
C19 — advertised node capacity never exceeds what the instance can deliver (capacity ratio at its
default 1 and no positive capacity shift; for the pool watermarks, no shift at all).
-/
namespace Terway.Props.C19
open Terway.Capacity

/-- `getInstanceType` clamps every per-interface quantity at zero -/
theorem c19_limits_nonneg (t : InstanceType) :
    0 ≤ (getInstanceType t).ipv4Per ∧ 0 ≤ (getInstanceType t).ipv6Per ∧ 0 ≤ (getInstanceType t).member ∧
    0 ≤ (getInstanceType t).maxMember ∧ 0 ≤ (getInstanceType t).erdmaAdapters := by
  simp only [getInstanceType]; omega

/-- the member-ENI limit is at most total − eni, and zero without trunk support -/
theorem c19_member_limit (t : InstanceType) :
    (getInstanceType t).member ≤ max (t.eniTotal - t.eniQuantity) 0 ∧
    (t.trunkSupported = false → (getInstanceType t).member = 0 ∧ (getInstanceType t).maxMember = 0) := by
  simp only [getInstanceType]
  constructor
  · split <;> omega
  · intro h; simp [h]

/-- RDMA interfaces that may be used: never more than the type has, at most two, none on small types -/
theorem c19_erdma_res (l : Limits) :
    0 ≤ l.erdmaRes ∧ l.erdmaRes ≤ 2 ∧ (0 ≤ l.erdmaAdapters → l.erdmaRes ≤ l.erdmaAdapters) ∧
    (0 < l.erdmaRes → 2 < l.adapters ∧ 0 < l.erdmaAdapters) := by
  unfold Limits.erdmaRes
  split
  · omega
  · split <;> omega

/-- interface slots: at most the attachable secondary interfaces -/
theorem c19_slots_daemon (cfg : Cfg) (mode : Mode) (l : Limits) (hs : cfg.eniCapShift ≤ 0) (ha : 1 ≤ l.adapters) :
    (poolConfig cfg mode l).maxENI ≤ l.adapters - 1 := by
  cases mode <;> simp only [poolConfig]
  · split <;> omega
  · omega

/-- pod-IP capacity: slots × addresses per interface, at most (adapters − 1) × addresses per interface -/
theorem c19_ip_capacity_daemon (cfg : Cfg) (mode : Mode) (l : Limits) (hs : cfg.eniCapShift ≤ 0) (ha : 1 ≤ l.adapters)
    (hip : 0 ≤ l.ipv4Per) :
    (poolConfig cfg mode l).capacity = (poolConfig cfg mode l).maxENI * (poolConfig cfg mode l).maxIPPerENI ∧
    (poolConfig cfg mode l).capacity ≤ (l.adapters - 1) * l.ipv4Per := by
  have hm := c19_slots_daemon cfg mode l hs ha
  cases mode
  · exact ⟨rfl, Int.mul_le_mul_of_nonneg_right hm hip⟩
  · exact ⟨rfl, Int.mul_nonneg (by omega) hip⟩

/-- pool watermarks: 0 ≤ min ≤ max ≤ capacity (non-negative configured sizes, no capacity shift) -/
theorem c19_watermarks (cfg : Cfg) (mode : Mode) (l : Limits) (hs : cfg.eniCapShift = 0) (ha : 1 ≤ l.adapters)
    (hip : 0 ≤ l.ipv4Per) (hmax : 0 ≤ cfg.maxPool) (hmin : 0 ≤ cfg.minPool) :
    0 ≤ (poolConfig cfg mode l).minPool ∧ (poolConfig cfg mode l).minPool ≤ (poolConfig cfg mode l).maxPool ∧
    (poolConfig cfg mode l).maxPool ≤ (poolConfig cfg mode l).capacity := by
  cases mode
  · have hcap : 0 ≤ (poolConfig cfg .multiIP l).capacity := Int.mul_nonneg (by split <;> omega) hip
    have hminE : cfg.minENI > 0 → 0 ≤ cfg.minENI * l.ipv4Per := fun h => Int.mul_nonneg (by omega) hip
    simp only [poolConfig] at hcap ⊢
    cases cfg.ipamCRD
    · simp only [Bool.false_eq_true, if_false]; omega
    · simp only [if_true]; omega
  · simp [poolConfig]

/-- RDMA capacity: usable RDMA interfaces × addresses per interface, only when enabled -/
theorem c19_erdma_capacity (cfg : Cfg) (mode : Mode) (l : Limits) (hip : 0 ≤ l.ipv4Per) (he : 0 ≤ l.erdmaAdapters) :
    (poolConfig cfg mode l).erdmaCap ≤ l.erdmaAdapters * l.ipv4Per ∧
    (cfg.enableERDMA = false → (poolConfig cfg mode l).erdmaCap = 0) := by
  cases mode <;> simp only [poolConfig]
  · refine ⟨?_, fun h => by simp [h]⟩
    split
    · exact Int.mul_le_mul_of_nonneg_right ((c19_erdma_res l).2.2.1 he) hip
    · exact Int.mul_nonneg he hip
  · exact ⟨Int.mul_nonneg he hip, fun _ => trivial⟩

/-- features the instance type lacks are switched off by the daemon -/
theorem c19_feature_gating_daemon (l : Limits) (mode : Mode) (cfg : Cfg) (os : Bool) :
    (l.ipv6Per ≤ 0 → (checkInstance l mode cfg os).ipv6 = false) ∧
    (mode = .multiIP → l.ipv6Per ≠ l.ipv4Per → (checkInstance l mode cfg os).ipv6 = false) ∧
    (l.member ≤ 0 → (checkInstance l mode cfg os).trunk = false) ∧
    (l.erdmaRes ≤ 0 → (checkInstance l mode cfg os).erdma = false) ∧
    (os = false → (checkInstance l mode cfg os).erdma = false) := by
  simp only [checkInstance, Limits.supportIPv6, Limits.supportMultiIPIPv6]
  refine ⟨fun h => ?_, fun hm hne => ?_, fun h => ?_, fun h => ?_, fun h => ?_⟩
  · simp; omega
  · simp [hm, hne]
  · simp; omega
  · simp; omega
  · simp [h]

/-- CRD mode: the interface slots sum to exactly the attachable secondary interfaces, none negative -/
theorem c19_flavor_slots (cap : NodeCap) (sw : Switches) (ha : 1 ≤ cap.adapters) :
    slots (flavor cap sw) = cap.adapters - 1 ∧ (∀ f ∈ flavor cap sw, 0 ≤ f.count) := by
  have h := flavor_arith cap sw
  refine ⟨by rw [flavor, slots_flavorOf]; exact h.1, fun f hf => ?_⟩
  rcases (mem_flavorOf ..).mp hf with ⟨_, rfl⟩ | ⟨_, rfl⟩ | rfl
  · decide
  · decide
  · exact h.2 ha

/-- a trunk / RDMA slot exists only when the feature is enabled, and then exactly one -/
theorem c19_flavor_gated (cap : NodeCap) (sw : Switches) (f : Flavor) (hf : f ∈ flavor cap sw) :
    (f.kind = .trunk → sw.trunk = true ∧ f.count = 1) ∧ (f.kind = .erdma → sw.erdma = true ∧ f.count = 1) := by
  rcases (mem_flavorOf ..).mp hf with ⟨h, rfl⟩ | ⟨h, rfl⟩ | rfl
  · exact ⟨fun _ => ⟨(Bool.and_eq_true_iff.mp h).1, rfl⟩, nofun⟩
  · exact ⟨nofun, fun _ => ⟨(Bool.and_eq_true_iff.mp h).1, rfl⟩⟩
  · exact ⟨nofun, nofun⟩

/-- the controller's `max-available-ip` (and the exclusive-ENI device count): at most slots × addresses
    per interface, resp. at most the attachable secondary interfaces (`ha` is not used) -/
theorem c19_anno_ips (cap : NodeCap) (sw : Switches) (ha : 1 ≤ cap.adapters) (hip : 0 ≤ cap.ipv4Per) :
    annoIPs false (flavor cap sw) cap.ipv4Per ≤ (cap.adapters - 1) * cap.ipv4Per ∧
    annoIPs true (flavor cap sw) cap.ipv4Per ≤ cap.adapters - 1 := by
  have h := flavor_arith cap sw
  rw [flavor, annoIPs_false_flavorOf, annoIPs_true_flavorOf, ← h.1]
  refine ⟨?_, by omega⟩
  -- slot by slot: the trunk slot counts once on both sides, the RDMA slot only on the right
  simp only [Int.add_mul]
  split <;> split <;> omega

/-- CRD-mode feature switches follow the instance type -/
theorem c19_feature_gating_crd (cap : NodeCap) (cfg : Cfg) (os excl : Bool) (s : Switches)
    (h : crdSwitches cap cfg os excl = some s) :
    (cap.member ≤ 0 → s.trunk = false) ∧ (excl = true → s.trunk = false) ∧
    (cap.eriQuantity ≤ 0 → s.erdma = false) ∧ (os = false → s.erdma = false) ∧
    (cfg.ipStack = .dual → cap.ipv6Per ≠ cap.ipv4Per → s.ipv6 = false) ∧
    (cfg.ipStack = .ipv4 → s.ipv6 = false) := by
  obtain ⟨⟨v4, v6⟩, hst, rfl⟩ := Option.map_eq_some_iff.mp h
  refine ⟨fun h => ?_, fun h => ?_, fun h => ?_, fun h => ?_, fun hd hne => ?_, fun h4 => ?_⟩
  · simp; omega
  · simp [h]
  · simp; omega
  · simp [h]
  · rw [hd] at hst; cases hst; simpa using hne
  · rw [h4] at hst; cases hst; rfl

/-- Full statement of the IPv6 clause ("an instance type without IPv6 support never has IPv6
    advertised") is FALSE for the CRD-mode reconciler on the current tree: with `ip_stack: ipv6`
    the switch is set without looking at the instance type (and with `dual` when both quantities
    are 0).  Known finding C19/crd/ipv6-not-gated. -/
theorem c19_crd_ipv6_not_gated_witness :
    ∃ cap cfg s, crdSwitches cap cfg false false = some s ∧ cap.ipv6Per = 0 ∧ s.ipv6 = true :=
  ⟨⟨4, 10, 0, 0, 0⟩, ⟨0, 0, 5, 0, 0, false, false, true, .ipv6⟩, _, rfl, rfl, rfl⟩

/-- the part that does hold -/
theorem c19_crd_ipv6_gated_partial (cap : NodeCap) (cfg : Cfg) (os excl : Bool) (s : Switches)
    (h : crdSwitches cap cfg os excl = some s) (hd : cfg.ipStack = .dual) (h4 : 0 < cap.ipv4Per)
    (h6 : cap.ipv6Per ≤ 0) : s.ipv6 = false :=
  (c19_feature_gating_crd cap cfg os excl s h).2.2.2.2.1 hd (by omega)

/-- member-ENI resource reported only with trunk enabled and ready, and it is the member limit; the
    exclusive-ENI device count is the standard slot count, at most the attachable secondary interfaces
    (`ha` is not used) -/
theorem c19_node_res (excl : Bool) (cap : NodeCap) (sw : Switches) (ready : Bool) (r : String × Int)
    (ha : 1 ≤ cap.adapters) (h : nodeRes excl (flavor cap sw) sw ready cap.member = some r) :
    (excl = true → r.2 ≤ cap.adapters - 1) ∧ (excl = false → sw.trunk = true ∧ r.2 = cap.member) := by
  cases excl
  · simp only [nodeRes, Bool.false_eq_true, if_false] at h
    split at h
    · next ht => cases h; exact ⟨nofun, fun _ => ⟨ht.1, rfl⟩⟩
    · cases h
  · -- `nodeRes true` reports the fold that `annoIPs true` is (hence `rfl`); `annoIPs true` ignores its last argument
    have hr : r.2 = annoIPs true (flavor cap sw) 0 := by cases h; rfl
    rw [flavor, annoIPs_true_flavorOf] at hr
    have := (flavor_arith cap sw).1
    exact ⟨fun _ => by omega, nofun⟩

/-- the invariant: the stored capacity is the limits of the stored type -/
def CapFollows (cr : Option NodeCR) : Prop := ∀ c, cr = some c → c.capOf = some c.md.type

theorem nodeReconcile_follows (cr : Option NodeCR) (info : NodeMeta) (f : Bool) (h : CapFollows cr) :
    CapFollows (nodeReconcile cr info f).1 := by
  rcases nodeReconcile_cases cr info f with ⟨b, e, _⟩ | e <;> rw [e]
  · exact h
  · intro c hc; cases hc; rfl

theorem nodeRun_follows (hist : List (NodeMeta × Bool)) : ∀ {cr}, CapFollows cr → CapFollows (nodeRun cr hist) := by
  induction hist with
  | nil => exact fun hc => hc
  | cons x xs ih => exact fun hc => ih (nodeReconcile_follows _ x.1 x.2 hc)

theorem nodeReconcile_ok {cr : Option NodeCR} {info : NodeMeta} {f : Bool} (h0 : CapFollows cr)
    (hok : (nodeReconcile cr info f).2 = true) :
    ∃ c, (nodeReconcile cr info f).1 = some c ∧ c.md = info ∧ c.capOf = some info.type := by
  rcases nodeReconcile_cases cr info f with ⟨b, e, hb⟩ | e <;> rw [e] at hok ⊢
  · obtain ⟨c, rfl, hm⟩ := hb hok
    exact ⟨c, rfl, hm, hm ▸ h0 c rfl⟩
  · exact ⟨_, rfl, rfl, rfl⟩

/-- **in every history of reconciles** that starts without a Node CR (type, id, zone, region changing in any way
    between them, limits lookups failing at any of them), whenever a reconcile succeeds the CR records the node's
    current instance type and that type's limits — in particular after an in-place resize under the same instance
    id; so what the controllers advertise from `Spec.NodeCap` (`c19_anno_ips`, `c19_node_res`, `c19_flavor_slots`)
    is bounded by the current type -/
theorem c19_nodecap_follows_type (hist : List (NodeMeta × Bool)) (info : NodeMeta) (f : Bool) :
    (nodeReconcile (nodeRun none hist) info f).2 = true →
    ∃ c, (nodeReconcile (nodeRun none hist) info f).1 = some c ∧ c.md = info ∧ c.capOf = some info.type :=
  nodeReconcile_ok (nodeRun_follows hist nofun)

example : (poolConfig ⟨0, 0, 5, 0, 0, false, false, false, .ipv4⟩ .multiIP (getInstanceType ⟨4, 10, 10, 14, 0, true⟩)).capacity = 30 := by decide
example : flavor ⟨8, 10, 10, 6, 2⟩ ⟨true, true, true, true⟩ = [⟨.trunk, 1⟩, ⟨.erdma, 1⟩, ⟨.standard, 5⟩] := by decide
/-- an in-place resize (same id, type 1 → type 2) -/
example : nodeRun none [(⟨1, 7, 0, 0⟩, false), (⟨2, 7, 0, 0⟩, false)] = some ⟨⟨2, 7, 0, 0⟩, some 2⟩ := by decide

end Terway.Props.C19
