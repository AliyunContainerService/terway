import TerwayModel.Proofs.Json
import TerwayModel.Model.CniChain
/-!
C20 — layered configuration composes predictably; the generated CNI chain is coherent.
-/
namespace Terway.Props.C20
open Terway.Json

/-- what patch member `v` leaves under its key over the base value `c`; cases as in `mergeKvs`, so `mergeKvs_cons` is `rfl` case by case -/
def combine (c : Option Json) (v : Json) : Json :=
  match c with
  | none => prune v
  | some .null => prune v
  | some cur => mergeVal cur v

theorem combine_eq (c : Option Json) (v : Json) : combine c v = mergeVal (c.getD .null) v := by
  rcases c with _ | c
  · exact (mergeVal_null v).symm
  · cases c
    case null => exact (mergeVal_null v).symm
    all_goals rfl

def stepDoc (d : Kvs) (k : String) (v : Json) : Kvs :=
  if v.isNull then erase d k else put d k (combine (lookup d k) v)

theorem mergeKvs_cons (d : Kvs) (k : String) (v : Json) (rest : Kvs) :
    mergeKvs d ((k, v) :: rest) = mergeKvs (stepDoc d k v) rest := by
  cases v
  case null => rfl
  all_goals
    simp only [mergeKvs, stepDoc, combine, Json.isNull, Bool.false_eq_true, if_false]
    rcases lookup d k with _ | c
    · rfl
    · cases c <;> rfl

theorem lookup_stepDoc (d : Kvs) (k k' : String) (v : Json) :
    lookup (stepDoc d k v) k' =
      if k = k' then (if v.isNull then none else some (combine (lookup d k) v)) else lookup d k' := by
  unfold stepDoc; split <;> simp [*]

/-! ## C20 clause 1: merge-patch laws -/

/-- an empty overlay changes nothing -/
theorem c20_empty_overlay (d : Kvs) : mergePatch (.obj d) (.obj []) = some (.obj d) := rfl

/-- keys absent from the overlay keep the base value -/
theorem c20_absent_keeps (p : Kvs) : ∀ (d : Kvs) (k : String), k ∉ keys p → lookup (mergeKvs d p) k = lookup d k := by
  induction p with
  | nil => intro d k _; rfl
  | cons e p ih =>
    intro d k hk
    obtain ⟨ha, hk⟩ := List.ne_and_not_mem_of_not_mem_cons hk
    rw [mergeKvs_cons, ih _ k hk, lookup_stepDoc, if_neg (Ne.symm ha)]

theorem lookup_mergeKvs (p : Kvs) (hu : (keys p).Nodup) :
    ∀ (d : Kvs) (k : String), lookup (mergeKvs d p) k =
      match lookup p k with
      | none => lookup d k
      | some v => if v.isNull then none else some (combine (lookup d k) v) := by
  induction p with
  | nil => intro d k; rfl
  | cons e p ih =>
    intro d k
    obtain ⟨a, v⟩ := e
    obtain ⟨ha, hu⟩ := List.nodup_cons.mp hu
    rw [mergeKvs_cons]
    by_cases hak : a = k
    · subst hak
      rw [c20_absent_keeps p _ a ha, lookup_stepDoc]
      simp [lookup]
    · rw [ih hu, lookup_stepDoc]
      simp [lookup, hak]

/-- a key present in the overlay with a scalar value takes that value -/
theorem c20_present_wins (d p : Kvs) (hu : (keys p).Nodup) (k : String) (v : Json) (hv : lookup p k = some v)
    (hs : (∃ b, v = .bool b) ∨ (∃ n, v = .num n) ∨ (∃ s, v = .str s)) : lookup (mergeKvs d p) k = some v := by
  rw [lookup_mergeKvs p hu d k, hv]
  simp only [combine_eq]
  rcases hs with ⟨b, rfl⟩ | ⟨n, rfl⟩ | ⟨s, rfl⟩ <;> cases (lookup d k).getD .null <;> rfl

/-- a key set to `null` in the overlay is removed -/
theorem c20_null_deletes (d p : Kvs) (hu : (keys p).Nodup) (k : String) (hv : lookup p k = some .null) :
    lookup (mergeKvs d p) k = none := by
  rw [lookup_mergeKvs p hu d k, hv]; rfl

/-- a document that already holds what every patch member would leave is a fixed point -/
theorem mergeKvs_fixed (p : Kvs) : ∀ (x : Kvs),
    (∀ k v, (k, v) ∈ p → (v.isNull = true → lookup x k = none) ∧
      (v.isNull = false → ∃ c, lookup x k = some c ∧ combine (some c) v = c)) → mergeKvs x p = x := by
  induction p with
  | nil => intro x _; rfl
  | cons e p ih =>
    intro x h
    obtain ⟨a, v⟩ := e
    have hstep : stepDoc x a v = x := by
      have ha := h a v List.mem_cons_self
      unfold stepDoc
      cases hv : v.isNull
      · obtain ⟨c, hc, hcomb⟩ := ha.2 hv
        rw [if_neg (by simp), hc, hcomb]; exact put_of_lookup_some hc
      · rw [if_pos rfl]; exact erase_of_lookup_none (ha.1 hv)
    rw [mergeKvs_cons, hstep]
    exact ih x fun k v hm => h k v (List.mem_cons_of_mem _ hm)

/-- what one member of an overlay must satisfy for the overlay to be idempotent -/
def Absorbs (v : Json) : Prop :=
  mergeVal (prune v) v = prune v ∧ ∀ cur, mergeVal (mergeVal cur v) v = mergeVal cur v

theorem Absorbs.of_idem {v : Json} (h : ∀ cur, mergeVal (mergeVal cur v) v = mergeVal cur v) : Absorbs v :=
  ⟨mergeVal_null v ▸ h .null, h⟩

theorem mergeKvs_idem (d : Kvs) {p : Kvs} (hu : (keys p).Nodup) (hm : ∀ k v, (k, v) ∈ p → Absorbs v) :
    mergeKvs (mergeKvs d p) p = mergeKvs d p := by
  apply mergeKvs_fixed
  intro k v hkv
  have hl := lookup_mergeKvs p hu d k
  rw [lookup_of_mem hu hkv] at hl
  refine ⟨fun hn => by simpa [hn] using hl, fun hn => ⟨_, by simpa [hn] using hl, ?_⟩⟩
  simp only [combine_eq, Option.getD_some]
  exact (hm k v hkv).2 _

theorem mergeKvs_fresh {p : Kvs} (hu : (keys p).Nodup) :
    ∀ d : Kvs, (∀ k ∈ keys p, lookup d k = none) → mergeKvs d p = d ++ pruneKvs p := by
  induction p with
  | nil => intro d _; simp [mergeKvs, pruneKvs]
  | cons e p ih =>
    obtain ⟨a, v⟩ := e
    obtain ⟨ha, hu⟩ := List.nodup_cons.mp hu
    intro d hd
    have hda := hd a List.mem_cons_self
    rw [mergeKvs_cons, pruneKvs_cons, ih hu]
    · unfold stepDoc
      split
      · rw [erase_of_lookup_none hda]
      · rw [hda, put_of_lookup_none hda, List.append_assoc]; rfl
    · intro k hk
      rw [lookup_stepDoc, if_neg (by rintro rfl; exact ha hk)]
      exact hd k (List.mem_cons_of_mem _ hk)

theorem pruneKvs_eq_mergeKvs {p : Kvs} (hu : (keys p).Nodup) : pruneKvs p = mergeKvs [] p :=
  (mergeKvs_fresh hu [] fun _ _ => rfl).symm

mutual
/-- well-formed overlay: objects have distinct keys (they come out of a Go map), and a non-object
    member is unchanged by `pruneNulls` (no `null` inside the objects of its arrays) -/
def Good : Json → Prop
  | .obj kvs => (keys kvs).Nodup ∧ GoodKvs kvs
  | v => prune v = v
def GoodKvs : Kvs → Prop
  | [] => True
  | (_, v) :: rest => Good v ∧ GoodKvs rest
end

mutual
theorem absorbs_of_good : (v : Json) → Good v → Absorbs v
  | .obj p, ⟨hu, hk⟩ => by
    -- whatever `cur` is, an object or (pruned away) a non-object, the result is `mergeKvs _ p`
    have idem := fun d => mergeKvs_idem d hu (absorbs_members p hk)
    refine .of_idem fun cur => ?_
    cases cur <;> simp only [mergeVal, pruneKvs_eq_mergeKvs hu, idem]
  | .null, hg | .bool _, hg | .num _, hg | .str _, hg | .arr _, hg =>
    -- a non-object patch replaces: the result is the patch or its pruning, the same by `hg`
    .of_idem fun cur => by cases cur <;> simp only [mergeVal, show prune _ = _ from hg]
theorem absorbs_members : (p : Kvs) → GoodKvs p → ∀ k v, (k, v) ∈ p → Absorbs v
  | [], _ => by simp
  | (_, c) :: rest, ⟨hc, hr⟩ => by
    intro k v h
    rcases List.mem_cons.mp h with h | h
    · cases h; exact absorbs_of_good _ hc
    · exact absorbs_members rest hr k v h
end

/-- **Applying an overlay twice equals applying it once** (document level, evanphx semantics), for
    overlays whose objects have distinct keys and whose arrays contain no object with a `null` member. -/
theorem c20_idempotent (d p : Kvs) (hg : Good (.obj p)) :
    mergeKvs (mergeKvs d p) p = mergeKvs d p :=
  Json.obj.inj ((absorbs_of_good _ hg).2 (.obj d))

/-- The side condition on arrays cannot be dropped for this library: when an array replaces an
    object, evanphx keeps the `null` members of the array's objects the first time and prunes them
    the second time.  (At the level of the decoded `Config` both decode alike; the harness checks
    idempotence there on the real `MergeConfigAndUnmarshal`.) -/
theorem c20_idempotent_needs_clean_arrays :
    let d : Kvs := [("a", .obj [("x", .num 1)])]
    let p : Kvs := [("a", .arr [.obj [("y", .null)]])]
    mergeKvs (mergeKvs d p) p ≠ mergeKvs d p := by
  simp [mergeKvs, lookup, put, mergeVal, prune, pruneList, pruneKvs]

/-! ## C20 clause 2: the generated CNI plugin chain -/

section chain
open Terway.CniChain

def typeOf : Json → Option String
  | .obj kvs => strOf (lookup kvs "type")
  | _ => none

def vtypeOf : Json → Option Json
  | .obj kvs => lookup kvs "eniip_virtual_type"
  | _ => none

def bwOf : Json → Option Json
  | .obj kvs => lookup kvs "bandwidth_mode"
  | _ => none

def keep (env : Env) (p : Json) : Bool := !(typeOf p = some "cilium-cni" && !env.ebpf)

def PluginOK (env : Env) (p : Json) : Prop :=
  (env.ebpf = false → typeOf p ≠ some "cilium-cni") ∧
  (typeOf p = some "terway" →
    if env.ebpf then
      (vtypeOf p = some (.str "veth") ∨ vtypeOf p = some (.str "ipvlan") ∨ vtypeOf p = some (.str "datapathv2")) ∧
      (bwOf p = some (.str "edt") ∨ bwOf p = some (.str "tc"))
    else vtypeOf p = none)

/-- the invariant of the loop `runPlugins` -/
structure AccInv (env : Env) (acc : Acc) : Prop where
  plugins : ∀ p ∈ acc.out, PluginOK env p
  require : env.ebpf = true → (acc.datapath = "ipvlan" ∨ acc.datapath = "datapathv2") → acc.require = true
  exist : acc.exist = true → ∃ p ∈ acc.out, typeOf p = some "cilium-cni"

theorem typeOf_chainer (dp : String) : typeOf (chainer dp) = some "cilium-cni" := rfl

theorem AccInv.append {env : Env} {acc acc' : Acc} {q : Json} (hi : AccInv env acc) (ho : acc'.out = acc.out ++ [q])
    (hq : PluginOK env q)
    (hreq : env.ebpf = true → (acc'.datapath = "ipvlan" ∨ acc'.datapath = "datapathv2") → acc'.require = true)
    (hex : acc'.exist = true → acc.exist = true ∨ typeOf q = some "cilium-cni") : AccInv env acc' := by
  refine ⟨fun r hr => ?_, hreq, fun h => ?_⟩
  · rw [ho, List.mem_append, List.mem_singleton] at hr
    rcases hr with hr | rfl
    · exact hi.plugins r hr
    · exact hq
  · rw [ho]
    rcases hex h with h1 | h1
    · obtain ⟨r, hr, hrt⟩ := hi.exist h1
      exact ⟨r, List.mem_append_left _ hr, hrt⟩
    · exact ⟨q, by simp, h1⟩

theorem stepTerway_spec {env : Env} {acc acc' : Acc} {kvs : Kvs} {npp : String} (hi : AccInv env acc)
    (hts : strOf (lookup kvs "type") = some "terway") (h : stepTerway env acc kvs npp = .ok acc') :
    AccInv env acc' ∧ acc'.out.map typeOf = acc.out.map typeOf ++ [some "terway"] := by
  simp only [stepTerway] at h
  -- how the datapath was chosen does not matter, only which branch it falls in
  generalize (chooseDatapath env npp _).getD acc.datapath = dp at h
  split at h
  · next he =>
    cases h
    exact ⟨hi.append rfl ⟨by simp [typeOf, hts], by simp [he, vtypeOf]⟩ (by simp [he]) .inl, by simp [typeOf, hts]⟩
  · next he =>
    simp only [Bool.not_eq_false] at he
    split at h
    · next hv =>
      cases h
      exact ⟨hi.append rfl ⟨by simp [he], by simp [he, vtypeOf, bwOf]⟩ (by simp [hv]) .inl, by simp [typeOf, hts]⟩
    · split at h
      · next hd =>
        -- ipvlan / datapath v2: the chainer becomes required
        cases h
        refine ⟨hi.append rfl ⟨by simp [he], fun _ => ?_⟩ (fun _ _ => rfl) .inl, by simp [typeOf, hts]⟩
        rcases hd with hd | hd <;> cases acc.edt <;> simp [he, vtypeOf, bwOf, hd]
      · cases h

theorem step_spec (env : Env) (acc acc' : Acc) (p : Json) (hi : AccInv env acc)
    (h : stepPlugin env acc p = .ok acc') :
    AccInv env acc' ∧
    acc'.out.map typeOf = acc.out.map typeOf ++ (if keep env p then [typeOf p] else []) := by
  unfold stepPlugin at h
  split at h
  · next kvs0 =>
    have htyp : typeOf (.obj kvs0) = strOf (lookup (erase (erase kvs0 "cniVersion") "name") "type") := by simp [typeOf]
    simp only [keep, htyp]
    dsimp only at h
    generalize erase (erase kvs0 "cniVersion") "name" = kvs at h ⊢
    split at h
    · cases h
    · next ty hts =>
      simp only [hts]
      split at h
      · next hc =>
        subst hc
        split at h
        · next he => cases h; exact ⟨hi, by simp [he]⟩
        · next he =>
          cases h
          simp only [Bool.not_eq_false] at he
          exact ⟨hi.append rfl ⟨by simp [he], by simp [typeOf, hts]⟩ (fun _ _ => rfl) fun _ => .inr (by simp [typeOf, hts]),
            by simp [he, typeOf, hts]⟩
      · next hc =>
        split at h
        · next ht =>
          subst ht
          split at h
          · cases h
          · have := stepTerway_spec hi hts h
            exact ⟨this.1, by simp [this.2]⟩
        · next ht =>
          cases h
          exact ⟨hi.append rfl ⟨by simp [typeOf, hts, hc], by simp [typeOf, hts, ht]⟩ hi.require .inl,
            by simp [typeOf, hts, hc]⟩
  · cases h

theorem run_spec {env : Env} {ps : List Json} : ∀ {acc acc' : Acc}, AccInv env acc → runPlugins env acc ps = .ok acc' →
    AccInv env acc' ∧ acc'.out.map typeOf = acc.out.map typeOf ++ (ps.filter (keep env)).map typeOf := by
  induction ps with
  | nil => intro acc acc' hi h; cases h; exact ⟨hi, by simp⟩
  | cons p ps ih =>
    intro acc acc' hi h
    rw [runPlugins] at h
    split at h
    · cases h
    · next acc1 hs =>
      have h1 := step_spec env acc acc1 p hi hs
      have h2 := ih h1.1 h
      refine ⟨h2.1, ?_⟩
      rw [h2.2, h1.2, List.filter_cons]
      split <;> simp

theorem chain_spec {env : Env} {ps out : List Json} (h : mergeConfigList env ps = .ok out) :
    ∃ acc, runPlugins env { edt := env.edt } ps = .ok acc ∧ AccInv env acc ∧
      acc.out.map typeOf = (ps.filter (keep env)).map typeOf ∧
      out = if env.ebpf ∧ acc.require ∧ !acc.exist then acc.out ++ [chainer acc.datapath] else acc.out := by
  unfold mergeConfigList at h
  split at h
  · cases h
  · next acc hr =>
    cases h
    have init : AccInv env { edt := env.edt } := ⟨nofun, fun _ h => by simp at h, nofun⟩
    have hs := run_spec init hr
    exact ⟨acc, hr, hs.1, by simpa using hs.2, rfl⟩

/-- **Order**: the output keeps the input plugin order (the eBPF chainer is dropped on a kernel
    without eBPF), followed by at most one appended chainer. -/
theorem c20_chain_order (env : Env) (ps out : List Json) (h : mergeConfigList env ps = .ok out) :
    ∃ tail, (tail = [] ∨ tail = [some "cilium-cni"]) ∧
      out.map typeOf = (ps.filter (keep env)).map typeOf ++ tail := by
  obtain ⟨acc, _, _, ht, rfl⟩ := chain_spec h
  split
  · exact ⟨_, .inr rfl, by rw [List.map_append, ht]; rfl⟩
  · exact ⟨[], .inl rfl, by simp [ht]⟩

/-- **Domain**: every terway plugin carries a virtual type and a bandwidth mode from the supported
    sets when eBPF is available (no virtual type at all otherwise), and **no chainer on a kernel
    without eBPF support**. -/
theorem c20_chain_domain (env : Env) (ps out : List Json) (h : mergeConfigList env ps = .ok out) :
    ∀ p ∈ out, PluginOK env p := by
  obtain ⟨acc, _, hi, _, rfl⟩ := chain_spec h
  intro p hp
  split at hp
  · next hc =>
    rcases List.mem_append.mp hp with hp | hp
    · exact hi.plugins p hp
    · cases List.mem_singleton.mp hp
      exact ⟨fun hf => by simp [hf] at hc, fun ht => by simp [typeOf_chainer] at ht⟩
  · exact hi.plugins p hp

theorem c20_no_chainer_without_ebpf (env : Env) (ps out : List Json) (h : mergeConfigList env ps = .ok out)
    (he : env.ebpf = false) : ∀ p ∈ out, typeOf p ≠ some "cilium-cni" :=
  fun p hp => (c20_chain_domain env ps out h p hp).1 he

/-- **Chainer present when required**: with eBPF, if the datapath selected by the (last) terway
    plugin is ipvlan or datapath v2, the output contains an eBPF chainer. -/
theorem c20_chainer_when_required (env : Env) (ps out : List Json) (acc : Acc)
    (hr : runPlugins env { edt := env.edt } ps = .ok acc) (h : mergeConfigList env ps = .ok out)
    (he : env.ebpf = true) (hd : acc.datapath = "ipvlan" ∨ acc.datapath = "datapathv2") :
    ∃ p ∈ out, typeOf p = some "cilium-cni" := by
  obtain ⟨acc', hr', hi, _, rfl⟩ := chain_spec h
  cases hr.symm.trans hr'
  have hreq := hi.require he hd
  by_cases hex : acc.exist = true
  · obtain ⟨q, hq, hqt⟩ := hi.exist hex
    exact ⟨q, by simp [hex, hq], hqt⟩
  · exact ⟨_, by simp [he, hreq, hex], typeOf_chainer acc.datapath⟩

/-- **Datapath decision table**: veth is upgraded to datapath v2 exactly when the provider is eBPF and the node
    allows it, ipvlan exactly when the switch says so; an unsupported type selects nothing (and the plugin is then
    rejected unless an earlier plugin already fixed the datapath). -/
theorem c20_datapath_decision (env : Env) (npp vtype : String) :
    (lower vtype = "veth" ∨ lower vtype = "" →
      chooseDatapath env npp vtype = some (if npp = "ebpf" ∧ allowEBPF env = true then "datapathv2" else "veth")) ∧
    (lower vtype = "ipvlan" → chooseDatapath env npp vtype = some (if env.switchV2 then "datapathv2" else "ipvlan")) ∧
    (lower vtype = "datapathv2" → chooseDatapath env npp vtype = some "datapathv2") ∧
    (lower vtype ≠ "veth" → lower vtype ≠ "" → lower vtype ≠ "ipvlan" → lower vtype ≠ "datapathv2" →
      chooseDatapath env npp vtype = none) := by
  unfold chooseDatapath
  exact ⟨fun h => by simp [h], fun h => by simp [h], fun h => by simp [h], fun h1 h2 h3 h4 => by simp [h1, h2, h3, h4]⟩

/-- `allowEBPFNetworkPolicy`: a recorded capability wins, then an existing cilium_net link, then the request -/
theorem c20_allow_ebpf_table (env : Env) :
    (env.prevCilium = some true → allowEBPF env = true) ∧ (env.prevCilium = some false → allowEBPF env = false) ∧
    (env.prevCilium = none → env.ciliumLink = true → allowEBPF env = true) ∧
    (env.prevCilium = none → env.ciliumLink = false → allowEBPF env = env.policy) := by
  unfold allowEBPF
  exact ⟨fun h => by simp [h], fun h => by simp [h], fun h h2 => by simp [h, h2], fun h h2 => by simp [h, h2]⟩

/-- C20, "the list generated on a node": what `terway-cli cni` leaves at `--output` is the rendering of the list it
generated, whatever an earlier run left there (a longer file, a shorter one, none) -/
theorem c20_generated_file_is_the_new_list (render : List Json → List UInt8) (env : Env) (ps out : List Json) (old : List UInt8)
    (h : mergeConfigList env ps = .ok out) : generate render env ps old = .ok (render out) := by
  simp [generate, h, writeFile]

theorem c20_generated_file_ignores_previous (render : List Json → List UInt8) (env : Env) (ps : List Json) (old old' : List UInt8) :
    generate render env ps old = generate render env ps old' := by
  unfold generate; cases mergeConfigList env ps <;> rfl

/-- why the truncation matters: without it the tail of a longer old file stays behind the new document -/
theorem c20_overwrite_keeps_tail (old new : List UInt8) (h : new.length < old.length) : overwrite old new ≠ new := by
  intro he
  have hl := congrArg List.length he
  simp [overwrite] at hl
  omega

example : overwrite [1, 2, 3, 4] [9, 9] = [9, 9, 3, 4] ∧ writeFile [1, 2, 3, 4] [9, 9] = [9, 9] := by decide

end chain

end Terway.Props.C20
