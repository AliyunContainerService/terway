import TerwayModel.Proofs.Bandwidth
import TerwayModel.Proofs.StoredRec
import TerwayModel.Model.Remote
/-!
C15 — user-controlled input can be rejected but can never crash a component: the bandwidth annotation (well-formed
values are accepted with or without a unit and scale monotonically), the stored records the daemon filters at
start-up, the number of steps `eni_conf` gives the wait for a PodENI record.
-/
namespace Terway.Props.C15
open Terway.Bandwidth

/-- **No annotation value makes `parseBandwidth` panic**, whatever the letter/space/upper-case tables
    are.  Proved for the code as it is now: the regenerated fact `bwNoLetterGuard` must be 1. -/
theorem c15_bandwidth_total (cfg : Cfg) (s : List Char) : parseBandwidth cfg s ≠ .panic := by
  unfold parseBandwidth
  split
  · nofun
  · extract_lets s1 i0 i
    have hb : 0 ≤ i ∧ i ≤ s1.length := by
      simp only [i, i0, noLetterGuard, indexFunc_eq]
      cases hx : s1.findIdx? cfg.isLetter with
      | none => simp
      | some k =>
        have := (List.findIdx?_eq_some_iff_getElem.mp hx).1
        simp only; split <;> omega
    simp only [slicePrefix, sliceSuffix, if_pos hb]
    split
    · nofun
    · split
      · nofun
      · split <;> nofun

def isDigit (c : Char) : Bool := '0' ≤ c ∧ c ≤ '9'

/-- the tables treat decimal digits as digits: not letters, not spaces, unchanged by upper-casing -/
structure DigitFriendly (cfg : Cfg) : Prop where
  notLetter : ∀ c, isDigit c = true → cfg.isLetter c = false
  notSpace  : ∀ c, isDigit c = true → cfg.isSpace c = false
  upperId   : ∀ c, isDigit c = true → cfg.upper c = c

def digitsVal (ds : List Char) : Nat := ds.foldl (fun acc c => 10 * acc + (c.toNat - 48)) 0

theorem digitVal_of_isDigit {c : Char} (h : isDigit c = true) : digitVal? c = some (c.toNat - 48) :=
  if_pos (of_decide_eq_true h)

/-- the scan accepts at its end only after a digit and not right after `_`: `hne` says that this holds already or that a
    digit is still to come, which is what the induction carries -/
theorem scanDec_digits {ds : List Char} (hd : ∀ c ∈ ds, isDigit c = true) (m : Nat) (sd : Bool) (prev : Prev)
    (hne : (sd = true ∧ prev ≠ .underscore) ∨ ds ≠ []) :
    scanDec ds m 0 false sd prev = some (ds.foldl (fun acc c => 10 * acc + (c.toNat - 48)) m, 0) := by
  induction ds generalizing m sd prev with
  | nil =>
    rcases hne with h | h
    · simp [scanDec, h.1, h.2]
    · exact absurd rfl h
  | cons c cs ih =>
    have hc := digitVal_of_isDigit (hd c List.mem_cons_self)
    simp only [scanDec, hc, List.foldl_cons]
    simpa using ih (fun x hx => hd x (List.mem_cons_of_mem _ hx)) (10 * m + (c.toNat - 48)) true .digit (.inl ⟨rfl, by decide⟩)

theorem parseDec_digits {ds : List Char} (hd : ∀ c ∈ ds, isDigit c = true) (hne : ds ≠ []) :
    parseDec ds = some { neg := false, mant := digitsVal ds, scale := 0 } := by
  have hm : splitSign ds = (false, ds) := by
    unfold splitSign
    split
    · exact absurd (hd '+' List.mem_cons_self) (by decide)
    · exact absurd (hd '-' List.mem_cons_self) (by decide)
    · rfl
  rw [parseDec, hm, scanDec_digits hd 0 false .start (.inr hne)]
  rfl

/-- **A well-formed value without a unit is accepted, as bytes.** -/
theorem c15_bandwidth_unitless (cfg : Cfg) (hc : DigitFriendly cfg) (ds : List Char)
    (hd : ∀ c ∈ ds, isDigit c = true) (hne : ds ≠ []) (hpos : digitsVal ds ≠ 0) :
    parseBandwidth cfg ds = .ok (digitsVal ds) := by
  have h1 : trim cfg.isSpace ds = ds := trim_id fun c h => hc.notSpace c (hd c h)
  have h2 : ds.map cfg.upper = ds := (List.map_congr_left fun c h => hc.upperId c (hd c h)).trans (List.map_id ds)
  have h3 : indexFunc cfg.isLetter ds = none :=
    indexFunc_eq .. ▸ List.findIdx?_eq_none_iff.mpr fun c h => hc.notLetter c (hd c h)
  simp [parseBandwidth, h1, h2, h3, noLetterGuard, slicePrefix, sliceSuffix, parseDec_digits hd hne, hne, hpos, mult_empty, value]

/-- the ASCII tables of the driver are digit friendly (so the theorem is not vacuous) -/
theorem asciiCfg_digitFriendly : DigitFriendly asciiCfg := by
  -- every clause compares code points: a digit lies in 48..57
  constructor <;> intro c h <;>
    simp only [isDigit, asciiCfg, decide_eq_true_eq, decide_eq_false_iff_not, Char.le_def, UInt32.le_iff_toNat_le,
      Char.ext_iff, ← UInt32.toNat_inj, ite_eq_right_iff, Char.reduceVal, UInt32.reduceToNat] at h ⊢ <;> omega

/-- for the same numeric part, a larger multiplier never gives a smaller value -/
theorem c15_bandwidth_monotone (d : Dec) (m1 m2 : Nat) (h : m1 ≤ m2) : value d m1 ≤ value d m2 :=
  Nat.div_le_div_right (Nat.mul_le_mul_left _ h)

/-- the multipliers grow with the unit: B < K < M < G < T -/
theorem c15_units_ordered : 1 < Gen.bwKilo ∧ Gen.bwKilo < Gen.bwMega ∧ Gen.bwMega < Gen.bwGiga ∧ Gen.bwGiga < Gen.bwTera := by
  decide

/-- which spellings select which multiplier -/
theorem c15_unit_table :
    mult ['B'] = some 1 ∧ mult ['K'] = some Gen.bwKilo ∧ mult ['K','B'] = some Gen.bwKilo ∧ mult ['K','I','B'] = some Gen.bwKilo ∧
    mult ['M'] = some Gen.bwMega ∧ mult ['M','B'] = some Gen.bwMega ∧ mult ['M','I','B'] = some Gen.bwMega ∧
    mult ['G'] = some Gen.bwGiga ∧ mult ['G','B'] = some Gen.bwGiga ∧ mult ['G','I','B'] = some Gen.bwGiga ∧
    mult ['T'] = some Gen.bwTera ∧ mult ['T','B'] = some Gen.bwTera ∧ mult ['T','I','B'] = some Gen.bwTera ∧
    mult ['X'] = none ∧ mult ['K','I'] = none := by decide

/-- **No stored record makes the daemon's start-up filter index out of range**, whatever items the record holds and
    whatever is attached.  Proved for the code as it is now: the regenerated fact `filterRechecksLen` must be 1
    (the loop that removes stale items in place re-reads the slice length). -/
theorem c15_stored_filter_total (att : Stored.Attached) (rs : List Stored.Item) : Stored.filter att rs ≠ none := by
  have hfact : Gen.filterRechecksLen = 1 := rfl
  unfold Stored.filter Stored.filterWith
  rw [hfact]
  obtain ⟨out, h⟩ := Stored.loop_recheck_some att (rs.length + 1) rs.length 0 rs
  simp [h]

/-- the hypothesis is needed: with the bound fixed at loop entry (`for j := range items`) a record with a stale
    item that is not the last one crashes the daemon at every start -/
theorem c15_stored_filter_range_loop_panics :
    Stored.filterWith false [] [⟨true, "eni-gone", "a"⟩, ⟨true, "eni-gone", "b"⟩] = none := by decide

open Terway.Remote in
/-- **Whatever number of steps `eni_conf` configures - none included - the caller of `Remote.Allocate` gets an answer**;
    with no step at all it is the time-out (the record was never read) -/
theorem c15_remote_zero_steps_times_out (trunk : Bool) (r : Rec) : poll trunk r 0 = .timeout := rfl

open Terway.Remote in
/-- with at least one step the answer is decided by the record alone, as one look at it says: the number of steps changes
    nothing while the record does not change -/
theorem c15_remote_answer_is_the_records (trunk : Bool) (r : Rec) (n : Nat) :
    poll trunk r (n + 1) = (match look trunk r with | .done => .ok | .fail => .notReady | .again => .timeout) := by
  induction n with
  | zero => rw [poll]; cases look trunk r <;> rfl
  | succ k ih => rw [poll]; cases h : look trunk r <;> simp only [ih, h]

open Terway.Remote in
/-- handed over only if the record is Bind for this pod instance, not being deleted, with interfaces, on this daemon's trunk -/
theorem c15_remote_ok_only_if_ready (trunk : Bool) (r : Rec) (n : Nat) (h : poll trunk r n = .ok) :
    r = .good ∨ (r = .otherTrunk ∧ trunk = false) := by
  cases n with
  | zero => cases h
  | succ k =>
    rw [c15_remote_answer_is_the_records] at h
    cases r <;> cases trunk <;> simp_all [look]

example : Remote.poll true .good 1 = .ok ∧ Remote.poll true .otherTrunk 3 = .notReady ∧ Remote.poll false .notBind 3 = .timeout := by decide
example : Stored.filter [("eni-1", "m1")] [⟨true, "eni-gone", "a"⟩, ⟨true, "eni-1", "b"⟩, ⟨true, "", "m1.10.0.0.1"⟩, ⟨true, "", "m2.10.0.0.2"⟩] =
    some [⟨true, "eni-1", "b"⟩, ⟨true, "", "m1.10.0.0.1"⟩] := by decide
example : parseBandwidth asciiCfg ['1','0','0','0'] = .ok 1000 := by decide
example : parseBandwidth asciiCfg ['1','0','m'] = .ok 10485760 := by decide
example : parseBandwidth asciiCfg [] = .err := by decide

end Terway.Props.C15
