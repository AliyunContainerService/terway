import TerwayModel.Proofs.Fib
import TerwayModel.Proofs.List
/-!
C13 — the programmed datapath routes pod traffic as intended and is fully removed.
What the generators emit (all datapaths, container side; policy route host side); then the host namespace of the
policy-route (veth) datapath over the FIB model, any number of pods per ENI.
-/
namespace Terway.Props.C13
open Terway.Datapath Terway.Fib

/-- nothing of family `f` in a configuration, apart from the user's own extra routes -/
def FamFree (cf : Conf) (f : Fam) (user : List Route) : Prop :=
  (∀ a ∈ cf.addrs, a.pfx.fam ≠ f) ∧
  (∀ r ∈ cf.routes, r.dst.fam = f → r ∈ user) ∧
  (∀ r ∈ cf.rules, (∀ p, r.src = some p → p.fam ≠ f) ∧ (∀ p, r.dst = some p → p.fam ≠ f)) ∧
  (∀ n ∈ cf.neighs, n.fam ≠ f) ∧
  (f = .v6 → cf.sysctl6 = none)

/-- main-table default routes of family `f` -/
def mainDefaults (cf : Conf) (f : Fam) : List Route :=
  cf.routes.filter fun r => r.table == 0 && r.dst == Pfx.default f

/-! Five generators append a per-family part `F c g` for `.v4` and for `.v6`, taken apart with `let (a, b, c) := …`, which
computes to its projections: hence `rfl` and `.append` in their theorems. -/

def RuleFree (f : Fam) (r : Rule) : Prop := (∀ p, r.src = some p → p.fam ≠ f) ∧ (∀ p, r.dst = some p → p.fam ≠ f)

/-- three of `FamFree`'s clauses; `RuleFree` is definitionally its clause about one rule -/
def Free (f : Fam) (rs : List Route) (us : List Rule) (ns : List Neigh) : Prop :=
  (∀ r ∈ rs, r.dst.fam ≠ f) ∧ (∀ r ∈ us, RuleFree f r) ∧ (∀ n ∈ ns, n.fam ≠ f)

theorem Free.nil {f : Fam} : Free f [] [] [] := ⟨List.forall_mem_nil _, List.forall_mem_nil _, List.forall_mem_nil _⟩

theorem Free.append {f : Fam} {rs rs' : List Route} {us us' : List Rule} {ns ns' : List Neigh}
    (h : Free f rs us ns) (h' : Free f rs' us' ns') : Free f (rs ++ rs') (us ++ us') (ns ++ ns') :=
  ⟨List.forall_mem_append.2 ⟨h.1, h'.1⟩, List.forall_mem_append.2 ⟨h.2.1, h'.2.1⟩,
    List.forall_mem_append.2 ⟨h.2.2, h'.2.2⟩⟩

theorem famFree_of {cf : Conf} {f : Fam} {own user : List Route} (hr : cf.routes = own ++ user)
    (ha : ∀ a ∈ cf.addrs, a.pfx.fam ≠ f) (h : Free f own cf.rules cf.neighs) (hs : f = .v6 → cf.sysctl6 = none) :
    FamFree cf f user := by
  refine ⟨ha, fun r hm hf => ?_, h.2.1, h.2.2, hs⟩
  rw [hr] at hm
  exact (List.mem_append.mp hm).elim (fun hm => absurd hf (h.1 r hm)) id

theorem ne_of_ip {c : Cfg} {f g : Fam} {an : Nat × Nat} (h : c.ip f = none) (hg : c.ip g = some an) : g ≠ f := by
  rintro rfl; simp [h] at hg

theorem multiNet_free (c : Cfg) {f g : Fam} (link a : Nat) (hgf : g ≠ f) :
    (∀ r ∈ (multiNet c g link a).1, RuleFree f r) ∧ (∀ r ∈ (multiNet c g link a).2, r.dst.fam ≠ f) := by
  unfold multiNet
  split <;> simp [RuleFree, hgf]

/-- with `[]` beside it, so that `.append` gives a generator's three lists at once (`[] ++ l` computes to `l`) -/
theorem oifRule_free (c : Cfg) (link : Nat) (f : Fam) : Free f [] (oifRule c link) [] := by
  refine ⟨List.forall_mem_nil _, ?_, List.forall_mem_nil _⟩
  unfold oifRule
  split <;> simp [RuleFree]

theorem maxMaskAddrs_fam (c : Cfg) (f : Fam) (h : c.ip f = none) : ∀ a ∈ maxMaskAddrs c, a.pfx.fam ≠ f := by
  unfold maxMaskAddrs
  cases f <;> simp only [Cfg.ip] at h <;> simp only [h] <;> split <;> simp

theorem subnetAddrs_fam (c : Cfg) (f : Fam) (h : c.ip f = none) : ∀ a ∈ subnetAddrs c, a.pfx.fam ≠ f := by
  unfold subnetAddrs
  cases f <;> simp only [Cfg.ip] at h <;> simp only [h] <;> split <;> simp

theorem sysctl6_none {c : Cfg} {f : Fam} (h : c.ip f = none) {α : Type} (x : α) :
    f = .v6 → (if c.ip6.isSome then some x else none) = none := by
  rintro rfl; simp [show c.ip6 = none from h]

theorem contPolicyFam_free (c : Cfg) (link : Nat) {f : Fam} (h : c.ip f = none) (g : Fam) :
    Free f (contPolicyFam c g link).1 (contPolicyFam c g link).2.1 (contPolicyFam c g link).2.2 := by
  unfold contPolicyFam
  rcases hg : c.ip g with _ | ⟨a, n⟩
  · exact Free.nil
  · have hgf := ne_of_ip h hg
    have hm := multiNet_free c link a hgf
    refine ⟨?_, hm.1, by simp [hgf]⟩
    simp only [List.forall_mem_append]
    exact ⟨⟨by simp [hgf], by simp [hgf]⟩, hm.2⟩

theorem hostPeerFam_free (c : Cfg) (veth table : Nat) {f : Fam} (h : c.ip f = none) (g : Fam) :
    (∀ a ∈ (hostPeerFam c g veth table).1, a.pfx.fam ≠ f) ∧
    Free f (hostPeerFam c g veth table).2.1 (hostPeerFam c g veth table).2.2 [] := by
  unfold hostPeerFam
  rcases hg : c.ip g with _ | ⟨a, n⟩
  · exact ⟨List.forall_mem_nil _, Free.nil⟩
  · have hgf := ne_of_ip h hg
    exact ⟨by simp [hgf], by simp [hgf], by simp [RuleFree, hgf], List.forall_mem_nil _⟩

theorem contIPVlanFam_free (c : Cfg) (link : Nat) {f : Fam} (h : c.ip f = none) (g : Fam) :
    (∀ a ∈ (contIPVlanFam c g link).1, a.pfx.fam ≠ f) ∧
    Free f (contIPVlanFam c g link).2.1 (contIPVlanFam c g link).2.2.1 (contIPVlanFam c g link).2.2.2 := by
  unfold contIPVlanFam
  rcases hg : c.ip g with _ | ⟨a, n⟩
  · exact ⟨List.forall_mem_nil _, Free.nil⟩
  · have hgf := ne_of_ip h hg
    have hm := multiNet_free c link a hgf
    dsimp only
    refine ⟨by split <;> simp [hgf], ?_, hm.1, by simp [hgf]⟩
    simp only [List.forall_mem_append]
    exact ⟨⟨by simp [hgf], by simp [hgf]⟩, hm.2⟩

theorem contDirectFam_free (c : Cfg) (link : Nat) {f : Fam} (h : c.ip f = none) (g : Fam) (b : Bool) :
    Free f (contDirectFam c g link b).1 (contDirectFam c g link b).2 [] := by
  unfold contDirectFam
  rcases hg : c.ip g with _ | ⟨a, n⟩
  · exact Free.nil
  · have hgf := ne_of_ip h hg
    have hm := multiNet_free c link a hgf
    refine ⟨?_, hm.1, List.forall_mem_nil _⟩
    simp only [List.forall_mem_append]
    exact ⟨⟨by simp [hgf], by simp [hgf]⟩, hm.2⟩

/-- **Nothing is created for a disabled family.** -/
theorem c13_disabled_family_contPolicy (c : Cfg) (link : Nat) (f : Fam) (h : c.ip f = none) :
    FamFree (genContPolicy c link) f (extraRoutes c link) :=
  have d := contPolicyFam_free c link h
  famFree_of rfl (maxMaskAddrs_fam c f h) (((oifRule_free c link f).append (d _)).append (d _)) (sysctl6_none h _)

theorem c13_disabled_family_contVlan (c : Cfg) (link : Nat) (f : Fam) (h : c.ip f = none) :
    FamFree (genContVlan c link) f (extraRoutes c link) :=
  have d := contDirectFam_free c link h
  famFree_of rfl (subnetAddrs_fam c f h) (((oifRule_free c link f).append (d _ _)).append (d _ _)) (sysctl6_none h _)

theorem c13_disabled_family_contExclusive (c : Cfg) (link : Nat) (f : Fam) (h : c.ip f = none) :
    FamFree (genContExclusive c link) f (extraRoutes c link) :=
  have d := contDirectFam_free c link h
  have ha : ∀ a ∈ (if c.multiNetwork then subnetAddrs c else maxMaskAddrs c), a.pfx.fam ≠ f := by
    split
    · exact subnetAddrs_fam c f h
    · exact maxMaskAddrs_fam c f h
  famFree_of rfl ha (((oifRule_free c link f).append (d _ _)).append (d _ _)) (sysctl6_none h _)

theorem c13_disabled_family_contIPVlan (c : Cfg) (link : Nat) (f : Fam) (h : c.ip f = none) :
    FamFree (genContIPVlan c link) f [] :=
  have d := contIPVlanFam_free c link h
  famFree_of (List.append_nil _).symm (List.forall_mem_append.2 ⟨(d _).1, (d _).1⟩)
    (((oifRule_free c link f).append (d _).2).append (d _).2) (sysctl6_none h _)

theorem c13_disabled_family_slaveIPVlan (c : Cfg) (link : Nat) (f : Fam) (h : c.ip f = none) :
    FamFree (genSlaveIPVlan c link) f [] := by
  refine famFree_of (List.append_nil _).symm ?_ ⟨?_, List.forall_mem_nil _, List.forall_mem_nil _⟩ fun _ => rfl
  -- the per-family part is a `fun` local to the generator
  all_goals
    simp only [genSlaveIPVlan, List.forall_mem_append]
    constructor
  all_goals
    split
    · exact List.forall_mem_nil _
    · rename_i hg; simp [ne_of_ip h hg]

theorem c13_disabled_family_eniIPVlan (c : Cfg) (name : String) (f : Fam) (h : c.ip f = none) :
    FamFree (genENIIPVlan c name) f [] :=
  famFree_of (own := []) rfl (List.forall_mem_nil _) Free.nil (sysctl6_none h _)

theorem c13_disabled_family_hostPeer (c : Cfg) (veth : Nat) (name : String) (table : Nat) (f : Fam) (h : c.ip f = none) :
    FamFree (genHostPeerPolicy c veth name table) f [] :=
  have d := hostPeerFam_free c veth table h
  famFree_of (List.append_nil _).symm (List.forall_mem_append.2 ⟨(d _).1, (d _).1⟩) ((d _).2.append (d _).2)
    (sysctl6_none h _)

theorem c13_disabled_family_eniPolicy (c : Cfg) (eni : Nat) (name : String) (table : Nat) (f : Fam) (h : c.ip f = none)
    (hh : c.host f = none) : FamFree (genENIPolicy c eni name table) f [] := by
  refine famFree_of (List.append_nil _).symm ?_ ⟨?_, List.forall_mem_nil _, List.forall_mem_nil _⟩
    (sysctl6_none h _)
  -- the generator spells both families out: no per-family part
  all_goals
    simp only [genENIPolicy, List.forall_mem_append]
    cases f
  all_goals
    simp only [Cfg.ip, Cfg.host] at h hh
    constructor <;> split <;> simp_all

/-- **Exactly one default route per enabled family inside the pod** (in the main table) when this is
    the default-route interface, none otherwise; with several networks the additional default route
    lives in the per-link table only. -/
theorem c13_one_default_contPolicy (c : Cfg) (link : Nat) (f : Fam) (hex : ∀ e ∈ c.extra, e.1.len ≠ 0) :
    (mainDefaults (genContPolicy c link) f).length = if c.defaultRoute ∧ (c.ip f).isSome then 1 else 0 := by
  unfold mainDefaults genContPolicy
  simp only [List.filter_append, List.length_append, contPolicyFam_defaults, extra_no_default c link f hex,
    List.length_nil, Nat.add_zero]
  exact fam_sum f fun g => c.defaultRoute ∧ (c.ip g).isSome

theorem c13_one_default_contVlan (c : Cfg) (link : Nat) (f : Fam) (hex : ∀ e ∈ c.extra, e.1.len ≠ 0) :
    (mainDefaults (genContVlan c link) f).length = if c.defaultRoute ∧ (c.ip f).isSome then 1 else 0 := by
  unfold mainDefaults genContVlan
  simp only [List.filter_append, List.length_append, contDirectFam_defaults, extra_no_default c link f hex,
    List.length_nil, Nat.add_zero]
  exact fam_sum f fun g => c.defaultRoute ∧ (c.ip g).isSome

theorem c13_one_default_contExclusive (c : Cfg) (link : Nat) (f : Fam) (hex : ∀ e ∈ c.extra, e.1.len ≠ 0) :
    (mainDefaults (genContExclusive c link) f).length = if c.defaultRoute ∧ (c.ip f).isSome then 1 else 0 := by
  unfold mainDefaults genContExclusive
  simp only [List.filter_append, List.length_append, contDirectFam_defaults, extra_no_default c link f hex,
    List.length_nil, Nat.add_zero]
  exact fam_sum f fun g => c.defaultRoute ∧ (c.ip g).isSome

theorem c13_one_default_contIPVlan (c : Cfg) (link : Nat) (f : Fam) :
    (mainDefaults (genContIPVlan c link) f).length = if c.defaultRoute ∧ (c.ip f).isSome then 1 else 0 := by
  unfold mainDefaults genContIPVlan
  simp only [List.filter_append, List.length_append, contIPVlanFam_defaults]
  exact fam_sum f fun g => c.defaultRoute ∧ (c.ip g).isSome

def PrioLE (a b : Rule) : Prop := a.prio ≤ b.prio

theorem firstYield_sorted (h : Host) (k : Pkt) (r0 : Rule) (rt : Route) (l : List Rule) (hs : l.Pairwise PrioLE)
    (hm : r0 ∈ l) (hy : yield h k r0 = some rt)
    (hmin : ∀ r ∈ l, (yield h k r).isSome → r0.prio < r.prio ∨ r = r0) : firstYield h k l = some rt := by
  induction l with
  | nil => cases hm
  | cons x xs ih =>
    have ⟨hx, hxs⟩ := List.pairwise_cons.mp hs
    simp only [firstYield]
    by_cases hx0 : x = r0
    · rw [hx0, hy]
    · have hmem : r0 ∈ xs := (List.mem_cons.mp hm).resolve_left (Ne.symm hx0)
      -- `x` comes before `r0`, so its priority is not higher: it yields nothing
      have hnone : yield h k x = none := by
        apply Option.not_isSome_iff_eq_none.mp
        intro hyx
        rcases hmin x List.mem_cons_self hyx with hlt | heq
        · exact absurd (hx r0 hmem) (Nat.not_le_of_lt hlt)
        · exact hx0 heq
      rw [hnone]
      exact ih hxs hmem fun r hr => hmin r (List.mem_cons_of_mem _ hr)

theorem bestRoute_spec (f : Fam) (dst : Nat) (rs : List Route) (rt : Route) (hm : rt ∈ rs)
    (hc : pfxContains rt.dst f dst = true)
    (hbest : ∀ x ∈ rs, pfxContains x.dst f dst = true → x.dst.len < rt.dst.len ∨ x = rt) :
    bestRoute f dst rs = some rt := by
  rcases bestRoute_cases f dst rs with ⟨_, hn⟩ | ⟨y, hy, hym, hyc, hmax⟩
  · simp [hn rt hm] at hc
  · rcases hbest y hym hyc with hlt | rfl
    · exact absurd (hmax rt hm hc) (Nat.not_le_of_lt hlt)
    · exact hy

theorem lookup_eq {h : Host} {k : Pkt} (r0 : Rule) {rt : Route} (hr0 : r0 ∈ h.rules) (hm : ruleMatches r0 k = true)
    (hrt : rt ∈ h.routes) (ht : tableId rt.table = tableId r0.table) (hc : pfxContains rt.dst k.fam k.dst = true)
    (hbest : ∀ x ∈ h.routes, tableId x.table = tableId r0.table → pfxContains x.dst k.fam k.dst = true →
      x.dst.len < rt.dst.len ∨ x = rt)
    (hmin : ∀ r ∈ h.rules, ruleMatches r k = true → r0.prio < r.prio ∨ r = r0) : lookup h k = some rt := by
  have hy : yield h k r0 = some rt := by
    rw [yield, if_pos hm]
    refine bestRoute_spec _ _ _ rt (List.mem_filter.mpr ⟨hrt, by simpa using ht⟩) hc fun x hx => ?_
    exact hbest x (List.mem_filter.mp hx).1 (by simpa using (List.mem_filter.mp hx).2)
  exact firstYield_sorted h k r0 rt _ (sortRules_sorted _) ((sortRules_perm _).mem_iff.mpr hr0) hy
    fun r hr hyr => hmin r ((sortRules_perm _).subset hr) (matches_of_yield hyr)

def toRule (f : Fam) (a : Nat) : Rule := { prio := toContainerPrio, dst := some (Pfx.host f a), table := mainTable }
def fromRule (f : Fam) (a : Nat) (t : Nat) : Rule := { prio := fromContainerPrio, src := some (Pfx.host f a), table := t }
def vethRoute (f : Fam) (a : Nat) (veth : Nat) : Route := { dst := Pfx.host f a, dev := veth, scopeLink := true }

theorem mem_hostRules {p : Pod} {r : Rule} :
    r ∈ p.hostRules ↔ ∃ f a n, p.cfg.ip f = some (a, n) ∧ (r = toRule f a ∨ r = fromRule f a (tableOf p.eni)) := by
  refine (mem_append_fam (F := fun g => (hostPeerFam p.cfg g p.veth (tableOf p.eni)).2.2)).trans (exists_congr fun g => ?_)
  unfold hostPeerFam
  rcases p.cfg.ip g with _ | ⟨a, n⟩ <;> simp [toRule, fromRule]

theorem mem_vethRoutes {p : Pod} {rt : Route} :
    rt ∈ p.vethRoutes ↔ ∃ f a n, p.cfg.ip f = some (a, n) ∧ rt = vethRoute f a p.veth := by
  refine (mem_append_fam (F := fun g => (hostPeerFam p.cfg g p.veth (tableOf p.eni)).2.1)).trans (exists_congr fun g => ?_)
  unfold hostPeerFam
  rcases p.cfg.ip g with _ | ⟨a, n⟩ <;> simp [vethRoute]

/-- the default route of family `f` in the ENI's own table (gateway: `genENIPolicy`'s `gwOf f`) -/
def eniDefault (p : Pod) (f : Fam) : Route :=
  { table := tableOf p.eni, dst := Pfx.default f, gw := if p.cfg.stripVlan then p.cfg.eniGw f else p.cfg.gw f, dev := p.eni, onlink := true }

/-- the IPv6 link route to the gateway `gwOf .v6`, in the main table -/
def eniGwLink (p : Pod) : Route :=
  { dst := Pfx.host .v6 ((if p.cfg.stripVlan then p.cfg.eniGw .v6 else p.cfg.gw .v6).getD 0), dev := p.eni, scopeLink := true }

theorem mem_eniRoutes {p : Pod} {rt : Route} :
    rt ∈ p.eniRoutes ↔ (p.cfg.ip6.isSome ∧ rt = eniGwLink p) ∨ ∃ g, (p.cfg.ip g).isSome ∧ rt = eniDefault p g := by
  simp only [Pod.eniRoutes, genENIPolicy, exists_fam, Cfg.ip, eniDefault, eniGwLink, List.mem_append,
    List.mem_ite_nil_right, List.mem_cons, List.not_mem_nil, or_false, and_or_left]
  -- the generator emits the link route between the two default routes
  exact or_left_comm

/-- assumptions about the node the theorems are stated under -/
structure WF (base : List Route) (pods : List Pod) : Prop where
  /-- an address is held by one pod (C01 / C02) -/
  uniqueAddr : ∀ p ∈ pods, ∀ q ∈ pods, ∀ f a n m, p.cfg.ip f = some (a, n) → q.cfg.ip f = some (a, m) → p = q
  /-- the node's own routes live in the main table -/
  baseMain : ∀ b ∈ base, tableId b.table = mainTable
  /-- none of the node's own routes is a host route -/
  baseShort : ∀ b ∈ base, b.dst.len < b.dst.fam.bits
  /-- pod addresses are addresses: inside the family's range -/
  addrRange : ∀ p ∈ pods, ∀ f a n, p.cfg.ip f = some (a, n) → a < 2 ^ f.bits
  /-- an ENI gateway is not a pod address -/
  gwNotPod : ∀ p ∈ pods, ∀ q ∈ pods, ∀ a n, q.cfg.ip .v6 = some (a, n) → (eniGwLink p).dst.addr ≠ a
  /-- pods on one ENI agree on the ENI's gateway (they share the ENI's configuration) -/
  sameEni : ∀ p ∈ pods, ∀ q ∈ pods, ∀ f, p.eni = q.eni → eniDefault p f = eniDefault q f

theorem ruleMatches_toRule {g : Fam} {b : Nat} {k : Pkt} :
    ruleMatches (toRule g b) k = true ↔ g = k.fam ∧ b = k.dst := by
  simp [ruleMatches, toRule, optContains, pfxContains_host]

theorem ruleMatches_fromRule {g : Fam} {b t : Nat} {k : Pkt} :
    ruleMatches (fromRule g b t) k = true ↔ g = k.fam ∧ b = k.src := by
  simp [ruleMatches, fromRule, optContains, pfxContains_host]

/-- a host namespace that contains exactly the main rule, the node's own routes and what the
    policy-route datapath set up for `pods`, however it was reached -/
def HostIs (h : Host) (base : List Route) (pods : List Pod) : Prop :=
  (∀ r, r ∈ h.rules ↔ r = mainRule ∨ ∃ p ∈ pods, r ∈ p.hostRules) ∧
  (∀ rt, rt ∈ h.routes ↔ rt ∈ base ∨ ∃ p ∈ pods, rt ∈ p.vethRoutes ∨ rt ∈ p.eniRoutes)

theorem hostState_is (base : List Route) (pods : List Pod) : HostIs (hostState base pods) base pods :=
  ⟨by simp [hostState, List.mem_flatMap], by simp [hostState, List.mem_flatMap]⟩

/-- **Traffic for a pod's address is delivered to that pod's host-side interface**, whatever the
    source and whatever other pods (also on the same ENI) are set up. -/
theorem c13_to_pod_gen (h : Host) (base : List Route) (pods : List Pod) (hh : HostIs h base pods) (wf : WF base pods) (p : Pod) (hp : p ∈ pods)
    (f : Fam) (a n : Nat) (hip : p.cfg.ip f = some (a, n)) (src : Nat) :
    lookup h ⟨f, src, a⟩ = some (vethRoute f a p.veth) := by
  refine lookup_eq (toRule f a) ((hh.1 _).mpr (.inr ⟨p, hp, mem_hostRules.mpr ⟨f, a, n, hip, .inl rfl⟩⟩))
    (ruleMatches_toRule.mpr ⟨rfl, rfl⟩) ((hh.2 _).mpr (.inr ⟨p, hp, .inl (mem_vethRoutes.mpr ⟨f, a, n, hip, rfl⟩)⟩))
    (tableId_zero.trans tableId_mainTable.symm) (pfxContains_host.mpr ⟨rfl, rfl⟩) ?_ ?_
  · intro x hx ht hxc
    replace ht : tableId x.table = mainTable := ht.trans tableId_mainTable
    rcases (hh.2 _).mp hx with hb | ⟨q, hq, hv | he⟩
    · have hlen := wf.baseShort x hb
      rw [fam_of_pfxContains hxc] at hlen
      exact .inl hlen
    · obtain ⟨g, b, m, hqip, rfl⟩ := mem_vethRoutes.mp hv
      obtain ⟨rfl, rfl⟩ := pfxContains_host.mp hxc
      cases wf.uniqueAddr p hp q hq g b n m hip hqip
      exact .inr rfl
    · rcases mem_eniRoutes.mp he with ⟨_, rfl⟩ | ⟨g, _, rfl⟩
      · obtain ⟨rfl, hga⟩ := pfxContains_host.mp hxc
        exact absurd hga (wf.gwNotPod q hq p hp a n hip)
      · exact absurd ((tableId_tableOf _).symm.trans ht) (tableOf_ne_main _)
  · intro r hr hm
    rcases (hh.1 _).mp hr with rfl | ⟨q, _, hq⟩
    · exact .inl (Nat.lt_trans prio_order.1 prio_order.2)
    · obtain ⟨g, b, m, _, rfl | rfl⟩ := mem_hostRules.mp hq
      · obtain ⟨rfl, rfl⟩ := ruleMatches_toRule.mp hm
        exact .inr rfl
      · exact .inl prio_order.1

/-- **Traffic sourced from a pod leaves through the ENI that owns the address, via that ENI's
    gateway** (table `1000 + ifindex`), for every destination that is not a pod on this node.  `hdr`: the model's default
    prefix contains the addresses of its family, not larger numbers. -/
theorem c13_from_pod_gen (h : Host) (base : List Route) (pods : List Pod) (hh : HostIs h base pods) (wf : WF base pods) (p : Pod) (hp : p ∈ pods)
    (f : Fam) (a n : Nat) (hip : p.cfg.ip f = some (a, n)) (dst : Nat) (hdr : dst < 2 ^ f.bits)
    (hnot : ∀ q ∈ pods, ∀ m, q.cfg.ip f ≠ some (dst, m)) :
    lookup h ⟨f, a, dst⟩ = some (eniDefault p f) := by
  refine lookup_eq (fromRule f a (tableOf p.eni))
    ((hh.1 _).mpr (.inr ⟨p, hp, mem_hostRules.mpr ⟨f, a, n, hip, .inr rfl⟩⟩)) (ruleMatches_fromRule.mpr ⟨rfl, rfl⟩)
    ((hh.2 _).mpr (.inr ⟨p, hp, .inr (mem_eniRoutes.mpr (.inr ⟨f, by simp [hip], rfl⟩))⟩)) rfl
    ((pfxContains_default hdr).mpr rfl) ?_ ?_
  · -- the ENI's table holds the default routes of the pods on that ENI only, and they agree
    intro x hx ht hxc
    replace ht : tableId x.table = tableOf p.eni := ht.trans (tableId_tableOf _)
    rcases (hh.2 _).mp hx with hb | ⟨q, hq, hv | he⟩
    · exact absurd ((wf.baseMain x hb).symm.trans ht).symm (tableOf_ne_main _)
    · obtain ⟨g, b, m, _, rfl⟩ := mem_vethRoutes.mp hv
      exact absurd (ht.symm.trans tableId_zero) (tableOf_ne_main _)
    · rcases mem_eniRoutes.mp he with ⟨_, rfl⟩ | ⟨g, _, rfl⟩
      · exact absurd (ht.symm.trans tableId_zero) (tableOf_ne_main _)
      · obtain rfl := (pfxContains_default hdr).mp hxc
        exact .inr (wf.sameEni q hq p hp g (tableOf_inj ((tableId_tableOf q.eni).symm.trans ht)))
  · intro r hr hm
    rcases (hh.1 _).mp hr with rfl | ⟨q, hq, hqr⟩
    · exact .inl prio_order.2
    · obtain ⟨g, b, m, hqip, rfl | rfl⟩ := mem_hostRules.mp hqr
      · obtain ⟨rfl, rfl⟩ := ruleMatches_toRule.mp hm
        exact absurd hqip (hnot q hq m)
      · obtain ⟨rfl, rfl⟩ := ruleMatches_fromRule.mp hm
        cases wf.uniqueAddr p hp q hq g b n m hip hqip
        exact .inr rfl

theorem c13_to_pod (base : List Route) (pods : List Pod) (wf : WF base pods) (p : Pod) (hp : p ∈ pods)
    (f : Fam) (a n : Nat) (hip : p.cfg.ip f = some (a, n)) (src : Nat) :
    lookup (hostState base pods) ⟨f, src, a⟩ = some (vethRoute f a p.veth) :=
  c13_to_pod_gen _ base pods (hostState_is base pods) wf p hp f a n hip src

theorem c13_from_pod (base : List Route) (pods : List Pod) (wf : WF base pods) (p : Pod) (hp : p ∈ pods)
    (f : Fam) (a n : Nat) (hip : p.cfg.ip f = some (a, n)) (dst : Nat) (hdr : dst < 2 ^ f.bits)
    (hnot : ∀ q ∈ pods, ∀ m, q.cfg.ip f ≠ some (dst, m)) :
    lookup (hostState base pods) ⟨f, a, dst⟩ = some (eniDefault p f) :=
  c13_from_pod_gen _ base pods (hostState_is base pods) wf p hp f a n hip dst hdr hnot

/-- `EnsureIPRule r`: a stale rule for the same address pointing to another ENI's table is gone -/
theorem c13_ensure_rule_replaces_stale (rules : List Rule) (r : Rule) :
    r ∈ ensureRule rules r ∧ ∀ x ∈ ensureRule rules r, ruleKey x = ruleKey r → x = r :=
  ⟨mem_ensureRule.mpr (.inl rfl), fun _ hx hk => (mem_ensureRule.mp hx).elim id fun h => absurd hk h.2⟩

theorem hostRules_keys (p : Pod) : p.hostRules.Pairwise (fun a b => ruleKey a ≠ ruleKey b) := by
  -- to- and from-rule differ in priority, the two families in their host prefix
  have hp : toContainerPrio ≠ fromContainerPrio := Nat.ne_of_lt prio_order.1
  unfold Pod.hostRules genHostPeerPolicy hostPeerFam
  rcases h4 : p.cfg.ip .v4 with _ | ⟨a4, n4⟩ <;> rcases h6 : p.cfg.ip .v6 with _ | ⟨a6, n6⟩ <;>
    simp [ruleKey, hp, Ne.symm hp, Pfx.host_inj]

/-- **Setting a pod up on a host that still holds stale rules for its address** (a lost DEL, then the
    address re-assigned, possibly on another ENI): afterwards the rules with the pod's keys are
    exactly the pod's own. -/
theorem c13_setup_replaces_stale_rules (h : Host) (p : Pod) (x : Rule) :
    x ∈ (setupPod h p).rules ↔ x ∈ p.hostRules ∨ (x ∈ h.rules ∧ ∀ r ∈ p.hostRules, ruleKey x ≠ ruleKey r) :=
  mem_ensureAll (hostRules_keys p)

theorem ensureRule_noop (rules : List Rule) (r : Rule) (hm : r ∈ rules) (hu : ∀ x ∈ rules, ruleKey x = ruleKey r → x = r) :
    ensureRule rules r = rules := by
  unfold ensureRule
  rw [if_pos hm, List.append_nil, List.filter_eq_self]
  intro x hx
  by_cases hk : ruleKey x = ruleKey r
  · simp [hu x hx hk]
  · simp [hk]

theorem ensureRules_noop (rs : List Rule) (rules : List Rule)
    (h : ∀ r ∈ rs, r ∈ rules ∧ ∀ x ∈ rules, ruleKey x = ruleKey r → x = r) : rs.foldl ensureRule rules = rules :=
  List.foldl_fixed fun r hr => ensureRule_noop rules r (h r hr).1 (h r hr).2

theorem ensureRoutes_noop (rts : List Route) (routes : List Route) (h : ∀ rt ∈ rts, rt ∈ routes) :
    rts.foldl ensureRoute routes = routes :=
  List.foldl_fixed fun rt hrt => if_pos (h rt hrt)

/-- the interface `p` of a pod is set up on the host -/
def SetUp (h : Host) (p : Pod) : Prop :=
  (∀ r ∈ p.hostRules, r ∈ h.rules ∧ ∀ x ∈ h.rules, ruleKey x = ruleKey r → x = r) ∧ (∀ rt ∈ p.eniRoutes ++ p.vethRoutes, rt ∈ h.routes)

/-- **The periodic rule sync changes nothing on a host where every interface of the pod is set up**: in particular each
    address of a multi-interface pod stays routed to the host veth of the interface that owns it. -/
theorem c13_rule_sync_noop (h : Host) (ifaces : List Pod) (hs : ∀ p ∈ ifaces, SetUp h p) : ruleSync h ifaces = h :=
  List.foldl_fixed fun p hp => by
    unfold setupPod
    rw [ensureRules_noop p.hostRules h.rules (hs p hp).1, ensureRoutes_noop _ h.routes (hs p hp).2]

/-- two interfaces of one pod on one ENI: the sync over both changes nothing; asserting the second's address on the first's
    host veth would move the route -/
example :
    let c0 : Cfg := { ip4 := some (0x0a00000a, 24), ip6 := none, gw4 := some 0x0a0000fd, gw6 := none, host4 := none, host6 := none,
                      eniGw4 := none, eniGw6 := none, stripVlan := false, defaultRoute := true, multiNetwork := true, extra := [], ifName := "eth0" }
    let c1 : Cfg := { c0 with ip4 := some (0x0a00000b, 24), defaultRoute := false, ifName := "eth1" }
    let p0 : Pod := { cfg := c0, veth := 2, eni := 1 }
    let p1 : Pod := { cfg := c1, veth := 3, eni := 1 }
    let h := setupPod (setupPod { rules := [mainRule], routes := [] } p0) p1
    (ruleSync h [p0, p1]).routes = h.routes ∧ (ruleSync h [p0, p1]).rules = h.rules ∧
    (ruleSync h [p0, { p1 with veth := 2 }]).routes ≠ h.routes := by decide

theorem eq_of_ruleKey (l : List Rule) (hpw : l.Pairwise (fun a b => ruleKey a ≠ ruleKey b)) (x r : Rule) (hx : x ∈ l) (hr : r ∈ l)
    (hk : ruleKey x = ruleKey r) : x = r :=
  hpw.eq_of_key hx hr hk

/-- setting an interface up establishes the rules part of `SetUp`, on any host (stale rules included) -/
theorem c13_setup_rules_setUp (h : Host) (p : Pod) :
    ∀ r ∈ p.hostRules, r ∈ (setupPod h p).rules ∧ ∀ x ∈ (setupPod h p).rules, ruleKey x = ruleKey r → x = r := by
  refine fun r hr => ⟨(c13_setup_replaces_stale_rules h p r).mpr (.inl hr), fun x hx hk => ?_⟩
  rcases (c13_setup_replaces_stale_rules h p x).mp hx with hx' | ⟨_, hne⟩
  · exact eq_of_ruleKey p.hostRules (hostRules_keys p) x r hx' hr hk
  · exact absurd hk (hne r hr)

/-- **Cleaning up after vanished devices (`CleanIPRules`, at every DEL) removes nothing that belongs to another pod**: a rule
    that is not bound to a device and is not about the address of a dead rule stays -/
theorem c13_clean_keeps_others (rules : List Rule) (r : Rule) (hm : r ∈ rules) (ho : r.oif = none)
    (hd : optIn r.dst (deadNets rules) = false) (hs : optIn r.src (deadNets rules) = false) : r ∈ cleanRules rules :=
  mem_cleanRules.mpr ⟨hm, fun _ => ⟨ho, hd, hs⟩⟩

/-- every device-bound rule of the pod priorities goes, with the address-only rules for its address -/
theorem c13_clean_removes_dead (rules : List Rule) (r : Rule) (hm : r ∈ cleanRules rules) (hp : isPodPrio r = true) :
    r.oif = none ∧ optIn r.dst (deadNets rules) = false ∧ optIn r.src (deadNets rules) = false :=
  (mem_cleanRules.mp hm).2 hp

/-- the current code binds no host rule to a device: then `CleanIPRules` changes nothing -/
theorem c13_clean_noop (rules : List Rule) (h : ∀ r ∈ rules, r.oif = none) : cleanRules rules = rules := by
  have hd : deadRules rules = [] := List.filter_eq_nil_iff.mpr fun r hr => by simp [h r hr]
  unfold cleanRules deadNets
  rw [hd, List.filter_eq_self]
  intro r hr
  simp [h r hr, optIn_nil]

example :
    let dead : Rule := { prio := fromContainerPrio, src := some (Pfx.host .v4 0x0a0000c8), oif := some "gone", table := 1002 }
    let old : Rule := { prio := toContainerPrio, dst := some (Pfx.host .v4 0x0a0000c8), table := mainTable }
    let live : Rule := { prio := toContainerPrio, dst := some (Pfx.host .v4 0x0a00000a), table := mainTable }
    cleanRules [mainRule, old, live, dead] = [mainRule, live] := by decide

theorem teardownSelects_toRule {f g : Fam} {a b : Nat} :
    teardownSelects f a (toRule g b) = true ↔ g = f ∧ b = a := by
  simp [teardownSelects, toRule, Pfx.host_inj]

theorem teardownSelects_fromRule {f g : Fam} {a b t : Nat} :
    teardownSelects f a (fromRule g b t) = true ↔ g = f ∧ b = a := by
  simp [teardownSelects, fromRule, Pfx.host_inj]

/-- **Teardown removes every rule and host-side route the pod's setup created, and nothing that
    belongs to another pod; ENI-level objects (the ENI table's default route) are shared and stay.** -/
theorem c13_teardown_exact (base : List Route) (pods : List Pod) (wf : WF base pods) (p : Pod) (hp : p ∈ pods) :
    (∀ r ∈ p.hostRules, r ∉ (teardown p (hostState base pods)).rules) ∧
    (∀ rt ∈ p.vethRoutes, rt ∉ (teardown p (hostState base pods)).routes) ∧
    (∀ q ∈ pods, q ≠ p → ∀ r ∈ q.hostRules, r ∈ (teardown p (hostState base pods)).rules) ∧
    (∀ q ∈ pods, q.veth ≠ p.veth → ∀ rt ∈ q.vethRoutes, rt ∈ (teardown p (hostState base pods)).routes) ∧
    (∀ q ∈ pods, q.eni ≠ p.veth → ∀ rt ∈ q.eniRoutes, rt ∈ (teardown p (hostState base pods)).routes) ∧
    mainRule ∈ (teardown p (hostState base pods)).rules := by
  have hh := hostState_is base pods
  simp only [mem_teardown_rules, mem_teardown_routes]
  refine ⟨?_, ?_, ?_, ?_, ?_, (hh.1 _).mpr (.inl rfl), fun _ _ _ _ => teardownSelects_mainRule⟩
  · rintro r hr ⟨_, hsel⟩
    obtain ⟨f, a, n, hip, rfl | rfl⟩ := mem_hostRules.mp hr
    · exact hsel f a n hip (teardownSelects_toRule.mpr ⟨rfl, rfl⟩)
    · exact hsel f a n hip (teardownSelects_fromRule.mpr ⟨rfl, rfl⟩)
  · rintro rt hrt ⟨_, hdev⟩
    obtain ⟨f, a, n, _, rfl⟩ := mem_vethRoutes.mp hrt
    exact hdev rfl
  · refine fun q hq hne r hr => ⟨(hh.1 _).mpr (.inr ⟨q, hq, hr⟩), fun f a n hip hs => hne ?_⟩
    obtain ⟨g, b, m, hqip, rfl | rfl⟩ := mem_hostRules.mp hr
    · obtain ⟨rfl, rfl⟩ := teardownSelects_toRule.mp hs
      exact wf.uniqueAddr q hq p hp g b m n hqip hip
    · obtain ⟨rfl, rfl⟩ := teardownSelects_fromRule.mp hs
      exact wf.uniqueAddr q hq p hp g b m n hqip hip
  · refine fun q hq hne rt hrt => ⟨(hh.2 _).mpr (.inr ⟨q, hq, .inl hrt⟩), ?_⟩
    obtain ⟨f, a, n, _, rfl⟩ := mem_vethRoutes.mp hrt
    exact hne
  · refine fun q hq hne rt hrt => ⟨(hh.2 _).mpr (.inr ⟨q, hq, .inr hrt⟩), ?_⟩
    rcases mem_eniRoutes.mp hrt with ⟨_, rfl⟩ | ⟨g, _, rfl⟩ <;> exact hne

/-- the to-pod and from-pod rules of every other pod survive the teardown -/
theorem c13_teardown_keeps_others_reachable (base : List Route) (pods : List Pod) (wf : WF base pods) (p q : Pod)
    (hp : p ∈ pods) (hq : q ∈ pods) (hne : q ≠ p) (f : Fam) (a n : Nat) (hip : q.cfg.ip f = some (a, n)) :
    toRule f a ∈ (teardown p (hostState base pods)).rules ∧ fromRule f a (tableOf q.eni) ∈ (teardown p (hostState base pods)).rules :=
  have h := (c13_teardown_exact base pods wf p hp).2.2.1 q hq hne
  ⟨h _ (mem_hostRules.mpr ⟨f, a, n, hip, .inl rfl⟩), h _ (mem_hostRules.mpr ⟨f, a, n, hip, .inr rfl⟩)⟩

end Terway.Props.C13
