import TerwayModel.Proofs.Webhook
/-!
C18 — the admission webhook only touches pods it owns and always emits a complete spec.
-/
namespace Terway.Props.C18
open Terway.Webhook

theorem c18_host_network_unchanged (inp : Input) (h : inp.pod.hostNetwork = true) : admitPod inp = .allowed := by
  simp [admitPod, gate, h]

theorem c18_ignored_unchanged (inp : Input) (h : inp.pod.ignored = true) : admitPod inp = .allowed := by
  simp [admitPod, gate, h]

/-- outside centralized-IPAM mode a pod without network annotations that matches no definition and
    does not ask for an ENI is admitted unchanged -/
theorem c18_no_match_unchanged (inp : Input) (hg : gate inp.pod = none) (hc : inp.ipamCRD = false) (hu : inp.pod.useENI = false)
    (ha : inp.annoNets = some []) (hr : inp.reqs = some []) (hm : matchOne inp.pod.fixedName inp.pns = none)
    (hns : inp.pns = [] ∨ inp.nsExists = true) : admitPod inp = .allowed := by
  have hne : (!inp.pns.isEmpty && !inp.nsExists) = false := by
    rcases hns with h | h <;> simp [h]
  simp [admitPod, hg, source, ha, hr, requests, hm, hc, hu, hne]

/-- any two of the three network annotations together are refused -/
theorem c18_conflict_denied (inp : Input) (h0 : inp.pod.hostNetwork = false) (h1 : inp.pod.containers ≠ 0)
    (h2 : inp.pod.ignored = false)
    (hc : (inp.pod.hasNetworks = true ∧ inp.pod.hasRequest = true) ∨ (inp.pod.hasNetworks = true ∧ inp.pod.hasPN = true) ∨
          (inp.pod.hasRequest = true ∧ inp.pod.hasPN = true)) : admitPod inp = .denied "exclusive" := by
  unfold admitPod gate
  simp only [h0, h1, h2, Bool.false_eq_true, if_false]
  rcases hc with ⟨a, b⟩ | ⟨a, b⟩ | ⟨a, b⟩ <;> simp [a, b]

def NetOK (fixedName : Bool) (n : Net) : Prop :=
  1 ≤ n.iface.utf8ByteSize ∧ n.iface.utf8ByteSize ≤ 5 ∧ n.sgs.length ≤ 10 ∧ n.fixed.isSome = true ∧
  (n.fixed = some true → fixedName = true)

theorem validate_spec {fn : Bool} {nets : List Net} : ∀ {seen : List String} {ns : List Net} {req af : Bool},
    validate fn nets seen = .ok (ns, req, af) →
    (∀ n ∈ ns, NetOK fn n ∧ n.iface ∉ seen) ∧ (ns.map (·.iface)).Nodup ∧
    (req = false → ∀ n ∈ ns, n.vsw ≠ [] ∧ n.sgs ≠ []) := by
  induction nets with
  | nil => intro seen ns req af h; cases h; simp
  | cons n rest ih =>
    intro seen ns req af h
    simp only [validate, ite_error_eq_ok] at h
    -- the four checks that did not refuse; `hlen` is read by the two `omega`
    obtain ⟨hsg, hlen, hdup, hfix, h⟩ := h
    split at h
    · cases h
    rename_i ns' req' af' hv
    cases h
    obtain ⟨i2, i3, i4⟩ := ih hv
    refine ⟨?_, ?_, ?_⟩
    · intro m hm
      rcases List.mem_cons.mp hm with rfl | hm
      · refine ⟨⟨by simp only; omega, by simp only; omega, by simpa using hsg, rfl, fun hf => ?_⟩, hdup⟩
        simpa [of_decide_eq_true (Option.some.inj hf)] using hfix
      · exact ⟨(i2 m hm).1, fun hs => (i2 m hm).2 (List.mem_cons_of_mem _ hs)⟩
    · exact List.nodup_cons.mpr ⟨fun hmem => by
        obtain ⟨m, hm, hmi⟩ := List.mem_map.mp hmem
        exact (i2 m hm).2 (hmi ▸ List.mem_cons_self), i3⟩
    · intro hreq m hm
      simp only [Bool.or_eq_false_iff, List.isEmpty_eq_false_iff] at hreq
      rcases List.mem_cons.mp hm with rfl | hm
      · exact ⟨hreq.1.2, hreq.2⟩
      · exact i4 hreq.1.1 m hm

theorem fillDefaults_netOK {cl : List String × List String} {nets : List Net} {fn : Bool}
    (hok : ∀ n ∈ nets, NetOK fn n) (hcl : cl.2.length ≤ 10) : ∀ n ∈ fillDefaults cl nets, NetOK fn n := by
  intro m hm
  obtain ⟨n, hn, rfl⟩ := List.mem_map.mp hm
  have ⟨h1, h2, h3, h4⟩ := hok n hn
  split
  · exact ⟨h1, h2, by simp only; split <;> assumption, h4⟩
  · exact hok n hn

theorem admit_patched (inp : Input) (nets : List Net) (pa : Option String) (res : Option (String × Nat)) (zt : List (List String))
    (h : admitPod inp = .patched nets pa res zt) :
    ∃ nets0 vsz ns req af,
      validate inp.pod.fixedName nets0 [] = .ok (ns, req, af) ∧
      (nets = ns ∧ req = false ∨ ∃ cl, inp.cluster = some cl ∧ req = true ∧ nets = fillDefaults cl ns) ∧
      res = resourceOf inp nets ∧ zt = zoneTerms inp (prevZones inp af) vsz := by
  unfold admitPod at h
  split at h
  · next hg => subst h; exact (gate_not_patched hg).elim
  split at h
  · next hs => subst h; exact (source_not_patched hs).elim
  rename_i nets0 pnAnno vsz _
  unfold finish at h
  cases hv : validate inp.pod.fixedName nets0 [] with
  | error e => rw [hv] at h; cases e <;> cases h
  | ok r =>
    obtain ⟨ns, req, af⟩ := r
    rw [hv] at h
    refine ⟨nets0, vsz, ns, req, af, hv, ?_⟩
    dsimp only at h
    split at h
    · next hreq =>
      split at h
      · cases h
      · next cl hc => cases h; exact ⟨.inr ⟨cl, hc, hreq, rfl⟩, rfl, rfl⟩
    · next hreq => cases h; exact ⟨.inl ⟨rfl, by simpa using hreq⟩, rfl, rfl⟩

/-- **Complete spec**: interface names are unique and 1–5 bytes long, at most ten security groups per
    entry (given the cluster configuration itself respects the limit — `ConfigFromConfigMap` refuses
    more), the allocation type is set, and Fixed only on pods with a stable name. -/
theorem c18_complete_spec (inp : Input) (nets : List Net) (pa : Option String) (res : Option (String × Nat)) (zt : List (List String))
    (h : admitPod inp = .patched nets pa res zt) (hcl : ∀ cl, inp.cluster = some cl → cl.2.length ≤ 10) :
    (nets.map (·.iface)).Nodup ∧ ∀ n ∈ nets, NetOK inp.pod.fixedName n := by
  obtain ⟨nets0, vsz, ns, req, af, hv, hn, _, _⟩ := admit_patched inp nets pa res zt h
  obtain ⟨hok, hnd, _⟩ := validate_spec hv
  have hok := fun n hn => (hok n hn).1
  rcases hn with ⟨rfl, _⟩ | ⟨cl, hc, _, rfl⟩
  · exact ⟨hnd, hok⟩
  · exact ⟨fillDefaults_iface cl ns ▸ hnd, fillDefaults_netOK hok (hcl cl hc)⟩

/-- vSwitches and security groups are present on every entry that did not need defaults, and on
    `eth0` after defaulting from a non-empty cluster configuration. -/
theorem c18_vsw_sg_present_partial (inp : Input) (nets : List Net) (pa : Option String) (res : Option (String × Nat)) (zt : List (List String))
    (h : admitPod inp = .patched nets pa res zt) (hcl : ∀ cl, inp.cluster = some cl → cl.1 ≠ [] ∧ cl.2 ≠ []) :
    ∀ n ∈ nets, n.iface = "eth0" → n.vsw ≠ [] ∧ n.sgs ≠ [] := by
  obtain ⟨nets0, vsz, ns, req, af, hv, hn, _, _⟩ := admit_patched inp nets pa res zt h
  rcases hn with ⟨rfl, hreq⟩ | ⟨cl, hc, _, rfl⟩
  · exact fun n hn _ => (validate_spec hv).2.2 hreq n hn
  · exact fillDefaults_eth0 (hcl cl hc).1 (hcl cl hc).2

/-- The full clause ("each entry has vSwitches and security groups") is FALSE on the current tree for
    entries other than `eth0`: defaults are only filled for `eth0`, so a user-supplied entry without
    vSwitches passes admission as it is.  Known finding C18/complete/unfilled. -/
theorem c18_non_eth0_unfilled_witness :
    ∃ inp nets pa res zt, admitPod inp = .patched nets pa res zt ∧ ∃ n ∈ nets, n.vsw = [] :=
  ⟨{ pod := ⟨false, 1, false, true, false, false, true, false, false⟩,
     annoNets := some [⟨"eth1", [], [], none, false⟩], reqs := some [], pns := [], nsExists := true, prevZone := none,
     ipamCRD := false, inject := false, enableTrunk := false, cluster := some (["vsw-1"], ["sg-1"]) },
   _, _, _, _, rfl, ⟨"eth1", [], [], some false, false⟩, by simp [fillDefaults], rfl⟩

/-- Fixed allocations are refused for pods without a stable name -/
theorem c18_fixed_needs_stable_name (inp : Input) (nets : List Net) (pa : Option String) (res : Option (String × Nat)) (zt : List (List String))
    (h : admitPod inp = .patched nets pa res zt) (hcl : ∀ cl, inp.cluster = some cl → cl.2.length ≤ 10) :
    ∀ n ∈ nets, n.fixed = some true → inp.pod.fixedName = true :=
  fun n hn hf => ((c18_complete_spec inp nets pa res zt h hcl).2 n hn).2.2.2.2 hf

/-- DaemonSet pods get no zone term -/
theorem c18_daemonset_no_affinity (inp : Input) (nets : List Net) (pa : Option String) (res : Option (String × Nat)) (zt : List (List String))
    (h : admitPod inp = .patched nets pa res zt) (hd : inp.pod.daemonSet = true) : zt = [] := by
  obtain ⟨_, _, _, _, _, _, _, _, rfl⟩ := admit_patched inp nets pa res zt h
  simp [zoneTerms, hd]

/-- with resource injection on, the device request equals the number of networks -/
theorem c18_device_request (inp : Input) (nets : List Net) (pa : Option String) (res : Option (String × Nat)) (zt : List (List String))
    (h : admitPod inp = .patched nets pa res zt) (hi : inp.inject = true) (hne : nets ≠ []) :
    ∃ name, res = some (name, nets.length) ∧ (name = "eni" ∨ name = "member-eni") ∧
      (name = "member-eni" → inp.enableTrunk = true ∧ ∀ n ∈ nets, n.attachENI = false) := by
  obtain ⟨_, _, _, _, _, _, _, rfl, _⟩ := admit_patched inp nets pa res zt h
  have hemp : nets.isEmpty = false := by simpa using hne
  simp only [resourceOf, hi, hemp, Bool.not_true, Bool.or_self, Bool.false_eq_true, if_false]
  refine ⟨_, rfl, ?_⟩
  split
  · next ht =>
    split
    · exact ⟨.inl rfl, fun h => absurd h (by decide)⟩
    · next ha => exact ⟨.inr rfl, fun _ => ⟨ht, by simpa using ha⟩⟩
  · exact ⟨.inl rfl, fun h => absurd h (by decide)⟩

/-- the injected request replaces whatever the pod template already declared for the device resources: after admission
    the injected kind is present exactly once, with the number of networks as its quantity -/
theorem c18_device_request_overrides_declared (pre : Option Nat) (name : String) (k : Nat) :
    (name, k) ∈ finalResources pre (some (name, k)) ∧ ∀ q, (name, q) ∈ finalResources pre (some (name, k)) → q = k := by
  unfold finalResources
  refine ⟨by simp, fun q hq => ?_⟩
  simp only [List.mem_append, List.mem_filter, List.mem_singleton, Prod.mk.injEq] at hq
  rcases hq with ⟨_, h⟩ | ⟨_, h⟩
  · simp at h
  · exact h

/-- the zone term for network-request pods lists only zones in which every requested network has a vSwitch -/
theorem c18_zone_subset (pns : List PN) (rs : List Req) : ∀ (idx : Nat) (nets : List Net) (zones : List String),
    requests pns rs idx = .ok (nets, zones) →
    nets.length = rs.length ∧
    ∀ z ∈ zones, ∀ r ∈ rs, ∃ p, pns.find? (·.name = r.network) = some p ∧ z ∈ p.zones ∧ p.ready = true := by
  induction rs with
  | nil => intro idx nets zones h; cases h; simp
  | cons r rest ih =>
    intro idx nets zones h
    simp only [requests] at h
    split at h
    · cases h
    rename_i p hf
    simp only [ite_error_eq_ok] at h
    obtain ⟨hready, _, h⟩ := h
    split at h
    · cases h
    rename_i nets' zones' hr
    cases h
    have ⟨hl, hz⟩ := ih _ _ _ hr
    refine ⟨by simp [hl], fun z hz' q hq => ?_⟩
    rcases List.mem_cons.mp hq with rfl | hq
    · refine ⟨p, hf, ?_, by simpa using hready⟩
      split at hz'
      · exact hz'
      · exact (List.mem_filter.mp hz').1
    · split at hz'
      · next hemp => rw [List.isEmpty_iff.mp hemp] at hq; cases hq
      · exact hz z (of_decide_eq_true (List.mem_filter.mp hz').2) q hq

/-- a definition is only matched when it is ready, every selector it has accepts the pod, it has at
    least one selector, and Fixed definitions only match pods with a stable name -/
theorem c18_match_sound (fn : Bool) (pns : List PN) (p : PN) (h : matchOne fn pns = some p) :
    p ∈ pns ∧ p.ready = true ∧ p.podSel ≠ some false ∧ p.nsSel ≠ some false ∧
    (p.podSel.isSome = true ∨ p.nsSel.isSome = true) ∧ (p.fixed = true → fn = true) := by
  rw [matchOne_eq_find] at h
  exact ⟨List.mem_of_find?_eq_some h, of_decide_eq_true (List.find?_some h :)⟩

end Terway.Props.C18
