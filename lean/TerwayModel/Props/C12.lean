import TerwayModel.Proofs.NetConf
import TerwayModel.Props.C14
/-!
C12 — every ADD yields a complete, self-consistent network configuration.
-/
namespace Terway.Props.C12
open Terway.NetConf Terway.Net

def countDefault (l : List Entry) : Nat := (l.filter (·.defaultRoute)).length

theorem countDefault_cons (e : Entry) (l : List Entry) : countDefault (e :: l) = countDefault l + e.defaultRoute.toNat := by
  cases h : e.defaultRoute <;> simp [countDefault, List.filter, h]

theorem scanDefault_eq (l : List Entry) (seen : Bool) :
    scanDefault l seen = if countDefault l + seen.toNat ≤ 1 then some (decide (countDefault l + seen.toNat = 1)) else none := by
  induction l generalizing seen with
  | nil => cases seen <;> rfl
  | cons e l ih =>
    rw [scanDefault, ih, countDefault_cons]
    cases e.defaultRoute <;> cases seen <;> simp

theorem defaultForNetConf_eq (l : List Entry) (hne : l ≠ []) : defaultForNetConf l =
    if 2 ≤ countDefault l then .error .dupDefault
    else if (l.any fun e => isDefaultIf e.ifName) = false then .error .noDefaultIf
    else if countDefault l = 1 then .ok l else .ok (setFirstDefault l) := by
  cases l with
  | nil => exact absurd rfl hne
  | cons e rest =>
    simp only [defaultForNetConf, scanDefault_eq, Bool.toNat_false, Nat.add_zero]
    by_cases h2 : 2 ≤ countDefault (e :: rest)
    · simp [h2, Nat.not_le.mpr h2]
    · simp [h2, Nat.le_of_lt_succ (Nat.not_le.mp h2)]

theorem setFirstDefault_count (l : List Entry) (hex : l.any (fun e => isDefaultIf e.ifName) = true) (h0 : countDefault l = 0) :
    countDefault (setFirstDefault l) = 1 := by
  induction l with
  | nil => simp at hex
  | cons e l ih =>
    rw [countDefault_cons] at h0
    rw [setFirstDefault]
    split
    · rw [countDefault_cons]
      show countDefault l + 1 = 1
      omega
    · rename_i hn
      rw [countDefault_cons, ih (by simpa [hn] using hex) (by omega)]; omega

/-- **Exactly one default-route interface, the primary interface is present, nothing but that one
    flag is touched.** -/
theorem c12_one_default (l l' : List Entry) (h : defaultForNetConf l = .ok l') (hne : l ≠ []) :
    countDefault l' = 1 ∧ (l'.any fun e => isDefaultIf e.ifName) = true ∧ l'.map (·.ifName) = l.map (·.ifName) := by
  rw [defaultForNetConf_eq l hne] at h
  split at h
  · cases h
  rename_i h2
  split at h
  · cases h
  rename_i hany
  rw [Bool.not_eq_false] at hany
  split at h <;> cases h
  · rename_i h1
    exact ⟨h1, hany, rfl⟩
  · rename_i h1
    refine ⟨setFirstDefault_count l hany (by omega), ?_, setFirstDefault_names l⟩
    -- whether the primary interface is there is a matter of the names only
    have names : ∀ l : List Entry, l.any (fun e => isDefaultIf e.ifName) = (l.map (·.ifName)).any isDefaultIf :=
      fun _ => by rw [List.any_map]; rfl
    rw [names, setFirstDefault_names, ← names, hany]

/-- two default routes are always refused, and so is a list without the primary interface -/
theorem c12_rejects (l : List Entry) :
    (2 ≤ countDefault l → defaultForNetConf l = .error .dupDefault) ∧
    (l ≠ [] → countDefault l ≤ 1 → (l.any fun e => isDefaultIf e.ifName) = false → defaultForNetConf l = .error .noDefaultIf) := by
  constructor
  · intro h2
    rw [defaultForNetConf_eq l (by rintro rfl; cases h2), if_pos h2]
  · intro hne h1 hany
    rw [defaultForNetConf_eq l hne, if_neg (by omega), if_pos hany]

example : defaultForNetConf [⟨"eth1", false⟩, ⟨"eth0", false⟩] = .ok [⟨"eth1", false⟩, ⟨"eth0", true⟩] := by rfl
example : defaultForNetConf [⟨"eth0", true⟩, ⟨"eth1", true⟩] = .error .dupDefault := by rfl
example : defaultForNetConf [⟨"eth1", true⟩] = .error .noDefaultIf := by rfl

theorem decorate_fields (tm : Option String) (vids : List (String × Nat)) (id : String) (base c : NetConf)
    (h : decorate tm vids id base = some c) :
    c.ip4 = base.ip4 ∧ c.cidr4 = base.cidr4 ∧ c.gw4 = base.gw4 ∧ c.ip6 = base.ip6 ∧ c.cidr6 = base.cidr6 ∧
    c.gw6 = base.gw6 ∧ c.extra = base.extra ∧ c.defaultRoute = base.defaultRoute ∧ c.ifName = base.ifName := by
  obtain ⟨_, _, _, rfl⟩ := decorate_some h
  simp

/-- the IPv4 gateway a PodENI NetConf carries is the one derived from the reported subnet; the
    configuration is withheld (nil) when the subnet is missing, unparsable or too small (IPv6: in `c12_roundtrip`) -/
theorem c12_gateway_v4 (tm : Option String) (vids : List (String × Nat)) (a : Alloc) (c : NetConf) (ip : Nat)
    (h : allocToRPC tm vids a = some c) (hip : a.ip4 = some ip) :
    ∃ addr n g, a.cidr4 = .ok addr n ∧ c.cidr4 = .ok addr n ∧ c.ip4 = some ip ∧ c.gw4 = some g ∧
      deriveGateway 32 addr n = some g := by
  obtain ⟨h4, _, _, _, _, rfl⟩ := allocToRPC_some h
  obtain ⟨addr, n, g, hc, hd, hg⟩ := famOK_spec h4 hip
  exact ⟨addr, n, g, hc, by simp [baseConf, hip, hc], hip, hg, hd⟩

/-- hence inside the subnet, with exactly two larger addresses in it (C14) -/
theorem c12_gateway_in_subnet (tm : Option String) (vids : List (String × Nat)) (a : Alloc) (c : NetConf) (ip : Nat)
    (h : allocToRPC tm vids a = some c) (hip : a.ip4 = some ip) :
    ∃ addr n g, c.cidr4 = .ok addr n ∧ c.gw4 = some g ∧
      C14.InSubnet 32 addr n g ∧ C14.InSubnet 32 addr n (g + 2) ∧ ¬ C14.InSubnet 32 addr n (g + 3) := by
  obtain ⟨addr, n, g, _, hc, _, hg, hd⟩ := c12_gateway_v4 tm vids a c ip h hip
  have := C14.c14_gateway_third_from_last 32 addr n g hd
  exact ⟨addr, n, g, hc, hg, this.1, this.2.2.1, this.2.2.2⟩

/-- the gateway differs from the pod address unless the pod was given the reserved third-from-last
    address itself (which the cloud never hands out: environment assumption) -/
theorem c12_gateway_ne_pod (addr n g ip : Nat) (hd : deriveGateway 32 addr n = some g)
    (hres : ip + 2 ≠ subnetLast 32 addr n) : g ≠ ip := by
  rw [deriveGateway_eq] at hd
  split at hd
  · cases hd; omega
  · cases hd

/-- **One datapath, determined solely by IP type, trunking and VLAN mode** (the complete table) -/
theorem c12_datapath_table :
    getDataPath .vpcIP false false = .vpcRoute ∧ getDataPath .vpcIP true true = .vpcRoute ∧
    getDataPath .vpcENI false false = .exclusiveENI ∧ getDataPath .vpcENI true false = .exclusiveENI ∧
    getDataPath .vpcENI false true = .vlan ∧ getDataPath .vpcENI true true = .vlan ∧
    getDataPath .eniMultiIP false false = .ipvlan ∧ getDataPath .eniMultiIP true false = .ipvlan ∧
    getDataPath .eniMultiIP false true = .ipvlan ∧ getDataPath .eniMultiIP true true = .vlan := by decide

/-- whatever else differs between two configurations, the datapath only follows the triple -/
theorem c12_datapath_solely (t : IPType) (s : Bool) (argIf1 argIf2 : String) (a b c d a' b' c' d' : Nat) (c1 c2 : NetConf)
    (s1 s2 : Setup) (h1 : parseSetup t s argIf1 a b c d c1 = .ok s1) (h2 : parseSetup t s argIf2 a' b' c' d' c2 = .ok s2)
    (ht : c1.trunk = c2.trunk) : s1.dp = s2.dp := by
  rw [parseSetup_dp h1, parseSetup_dp h2, ht]

/-- **The plugin recovers exactly what the daemon sent** for a PodENI allocation: it never fails on
    a configuration `ToRPC` produced, the container address is the pod address with the subnet's
    prefix length, the gateway is the derived one, every extra route gets the gateway of its own
    family, limits are the daemon's unless a positive runtime rate (bits/s → bytes/s) overrides them. -/
theorem c12_roundtrip (tm : Option String) (vids : List (String × Nat)) (a : Alloc) (c : NetConf)
    (t : IPType) (s : Bool) (argIf : String) (pi pe ri re : Nat)
    (h : allocToRPC tm vids a = some c) :
    ∃ cfg, parseSetup t s argIf pi pe ri re c = .ok cfg ∧
      (∀ ip addr n, a.ip4 = some ip → a.cidr4 = .ok addr n → cfg.addr4 = some (ip, n) ∧ cfg.gw4 = deriveGateway 32 addr n) ∧
      (∀ ip addr n, a.ip6 = some ip → a.cidr6 = .ok addr n → cfg.addr6 = some (ip, n) ∧ cfg.gw6 = deriveGateway 128 addr n) ∧
      (a.ip4 = none → cfg.addr4 = none ∧ cfg.gw4 = none) ∧
      cfg.routes = a.extra.map (fun (v4, d, n) => (v4, d, n, if v4 then cfg.gw4 else cfg.gw6)) ∧
      cfg.ingress = (if ri > 0 then ri / 8 else pi) ∧ cfg.egress = (if re > 0 then re / 8 else pe) ∧
      cfg.defaultRoute = a.defaultRoute := by
  obtain ⟨h4, h6, _, _, _, rfl⟩ := allocToRPC_some h
  obtain ⟨r4, hb4, hs4, hn4⟩ := famOK_build h4
  obtain ⟨r6, hb6, hs6, _⟩ := famOK_build h6
  -- the witness is the record `parseSetup` returns once `hb4` / `hb6` have rewritten its two `buildIPNet` calls
  refine ⟨_, by unfold parseSetup; dsimp only [baseConf]; rw [hb4, hb6], hs4, hs6, hn4, rfl, rfl, rfl, rfl⟩

/-- CRD mode: the interface a result describes (subnet, gateway, MAC) is in use and holds a valid address bound to
    the pod — not merely some interface of the node -/
theorem c12_crd_result_describes_owner (enis : List CrdEni) (pod id : String) (h : crdOwner enis pod = some id) :
    ∃ e ∈ enis, e.id = id ∧ e.inUse = true ∧ ∃ a ∈ e.ips, a.2.1 = true ∧ a.2.2 = pod := by
  obtain ⟨e, hf, rfl⟩ := Option.map_eq_some_iff.mp h
  have hp := List.find?_some hf
  simp only [Bool.and_eq_true, List.any_eq_true, beq_iff_eq] at hp
  obtain ⟨hu, a, ha, hv, hpod⟩ := hp
  exact ⟨e, List.mem_of_find?_eq_some hf, rfl, hu, a, ha, hv, hpod⟩

/-- a local result from an interface listed at start-up carries a gateway and a subnet for every enabled family: the IPv4
    ones always, the IPv6 ones exactly on an IPv6 node -/
theorem c12_startup_result_has_gateway (v6 : Bool) (k : Nat) :
    (metaNetConf v6 k).gw6.isSome = v6 ∧ (metaNetConf v6 k).cidr6.isSome = v6 := by
  cases v6 <;> simp [metaNetConf]

example : metaNetConf true 0 = { gw4 := "10.0.0.253", gw6 := some "fd00::fffd", cidr4 := "10.0.0.0/24", cidr6 := some "fd00::/64" } := by decide
example : (metaNetConf true 171).gw6 = some "fd00:ab::fffd" ∧ (metaNetConf false 171).gw6 = none := by decide

end Terway.Props.C12
