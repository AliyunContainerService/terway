import TerwayModel.Proofs.Pool
import TerwayModel.Model.Factory
/-!
C07 — node pool and cloud agree; failed calls leave no orphans.
-/
namespace Terway.Props.C07
open Terway.Pool

/-- addresses returned by `AssignNIPvX` — with or without an error — are tracked from the region that consumes the
    result on: usable on success, to be handed back on error -/
theorem c07_assigned_addresses_tracked (s : Slot) (six : Bool) (res : AssignRes) (ip : Nat) (h : ip ∈ res.ips) :
    ∃ a ∈ (s.assigned six res).ips, a.ip = ip ∧ a.owner = none ∧ a.st = (if res.err.isSome then .deleting else .valid) := by
  rw [(same_assigned s six res).ips]
  exact ⟨_, mem_putIPs.mpr (.inr (mem_newIPs.mpr ⟨ip, h, rfl⟩)), rfl, rfl, rfl⟩

/-- an interface returned by `CreateNetworkInterface` is tracked even when the call reports an error: the slot keeps it,
    in `deleting` state, for the dispose worker to hand back -/
theorem c07_created_eni_tracked (s : Slot) (v4n v6n : Nat) (res : CreateRes) (e : String) (he : res.eni = some e) :
    (s.created v4n v6n res).eni = some e ∧ (res.err.isSome → (s.created v4n v6n res).status = .deleting) := by
  refine ⟨(same_created s v4n v6n res).eni.trans he, fun hr => ?_⟩
  obtain ⟨c, hc⟩ := Option.isSome_iff_exists.mp hr
  simp [Slot.created, hc, he]

/-- on success the addresses of the created interface are in the pool -/
theorem c07_created_addresses_tracked (s : Slot) (v4n v6n : Nat) (res : CreateRes) (hr : res.err = none) (ip : Nat)
    (h : ip ∈ res.v4 ++ res.v6) (hfam : ∀ i ∈ res.v4, ∀ j ∈ res.v6, i ≠ j) :
    ∃ a ∈ (s.created v4n v6n res).ips, a.ip = ip ∧ a.st = .valid := by
  rw [(same_created s v4n v6n res).ips, hr]
  rcases List.mem_append.mp h with h4 | h6
  · -- an IPv4 address stays when the IPv6 addresses are put
    refine ⟨_, mem_putIPs.mpr (.inl ⟨mem_putIPs.mpr (.inr (mem_newIPs.mpr ⟨ip, h4, rfl⟩)), fun b hb e => ?_⟩), rfl, rfl⟩
    obtain ⟨j, hj, rfl⟩ := mem_newIPs.mp hb
    exact hfam ip h4 j hj e.symm
  · exact ⟨_, mem_putIPs.mpr (.inr (mem_newIPs.mpr ⟨ip, h6, rfl⟩)), rfl, rfl⟩

/-- a failed unassign call leaves the addresses tracked (still marked, to be retried) -/
theorem c07_failed_unassign_keeps (s : Slot) (ips : List Nat) : s.unassigned ips false = s := by
  simp [Slot.unassigned]

/-- a failed delete call leaves the interface tracked (still in `deleting` state, to be retried) -/
theorem c07_failed_delete_keeps (s : Slot) : s.deleted false = s := by
  simp [Slot.deleted]

/-- a confirmed unassign forgets exactly the addresses it was called with -/
theorem c07_unassign_forgets_exactly (s : Slot) (ips : List Nat) (a : IP) :
    a ∈ (s.unassigned ips true).ips ↔ a ∈ s.ips ∧ a.ip ∉ ips := by
  simp [Slot.unassigned, removeIPs]

/-- the dispose worker waits only when no address is marked (and the interface is not in `deleting` state) -/
theorem c07_dispose_worker_retries (c : Cfg) (dn : List Nat) (s : Slot) (e : String) (he : s.eni = some e)
    (hst : s.status ≠ .deleting) (hw : s.fdPlanOK c dn .wait = true) : ∀ a ∈ s.ips, a.st ≠ .deleting := by
  intro a ha hd
  have : a.ip ∈ deletingOf (fam a.v6 s.ips) := mem_deletingOf.mpr ⟨a, ha, rfl, hd, rfl⟩
  rw [fdPlanOK_wait he hst hw] at this
  cases this

/-- a release by the owner clears the owner -/
theorem c07_release_unbinds (l : List IP) (pod : String) (ips : List Nat) (a : IP)
    (ha : a ∈ releaseIPs l pod ips) (hi : a.ip ∈ ips) : a.owner ≠ some pod := by
  rcases List.mem_map_ite.mp ha with ⟨b, _, _, rfl⟩ | ⟨_, hc⟩
  · nofun
  · exact fun ho => hc ⟨hi, ho⟩

/-- a reply that cannot be handed over (the caller is gone) un-binds every address the request had bound -/
theorem c07_undelivered_reply_unbinds (l : List IP) (pod : String) (ips fresh : List Nat) (a : IP)
    (ha : a ∈ commitIPs l pod ips fresh false) (hf : a.ip ∈ fresh) : a.owner ≠ some pod :=
  c07_release_unbinds _ pod fresh a (commitIPs_eq .. ▸ ha) hf

/-- the balancer: above `maxIdles` the surplus brings the reserve down to exactly `maxIdles`, below `minIdles` (with room
    left) the deficit brings it up to exactly `minIdles`, inside the band nothing is asked for -/
theorem c07_balance_band (idles inuses maxI minI total : Nat) (hmm : minI ≤ maxI) :
    let (toDel, toAdd) := balance idles inuses maxI minI total
    (maxI ≤ idles → idles - toDel = maxI ∧ toAdd = 0) ∧
    (idles < minI → idles + inuses < total → idles + toAdd = minI ∧ toDel = 0) ∧
    (minI ≤ idles → idles ≤ maxI → toDel = 0 ∧ toAdd = 0) ∧
    (idles + inuses ≥ total → toAdd = 0) := by
  simp only [balance]
  refine ⟨?_, ?_, ?_, ?_⟩
  · intro h; constructor
    · omega
    · split <;> omega
  · intro h1 h2; constructor
    · rw [if_neg (by omega)]; omega
    · omega
  · intro h1 h2; constructor
    · omega
    · split <;> omega
  · intro h; rw [if_pos h]

/-- below the pool: whatever the cloud assigned on a call the factory reports back, with or without an error (the metadata
    wait timing out is an error *after* the effect); a call without error returned exactly what was asked -/
theorem c07_factory_reports_what_took_effect (n : Nat) (refused shows : Bool) :
    (Factory.assign n refused shows).added ≤ (Factory.assign n refused shows).returned ∧
    ((Factory.assign n refused shows).err = false → (Factory.assign n refused shows).returned = n) := by
  unfold Factory.assign
  cases refused <;> cases shows <;> simp

end Terway.Props.C07
