import TerwayModel.Proofs.Pool
import TerwayModel.Model.Capacity
import TerwayModel.Model.Factory
/-!
C06 — the node pool stays within cloud quotas and never disposes what is in use.
-/
namespace Terway.Props.C06
open Terway.Pool

/-- in every reachable state, per interface and family: addresses tracked (valid, invalid or awaiting unassignment)
    plus addresses asked for and not yet answered never exceed the per-ENI limit -/
theorem c06_tracked_plus_asked_within_limit (cfg : Cfg) (n : Nat) (hb : cfg.batch ≤ cfg.cap) (evs : List Ev) (p : Pool)
    (hr : (Pool.init cfg n).run evs = some p) (i : Nat) :
    (fam false (p.slot i).ips).length + (p.slot i).plan4 ≤ cfg.cap ∧ (fam true (p.slot i).ips).length + (p.slot i).plan6 ≤ cfg.cap := by
  obtain ⟨hI, hc⟩ := (Pool.Inv.init cfg n).run hb evs hr
  have := hI.slotOK i
  rw [hc] at this
  exact ⟨this.cap4, this.cap6⟩

/-- what the factory worker asks for on an existing interface fits the interface's free slots and the batch size -/
theorem c06_assign_request_fits (c : Cfg) (dn : List Nat) (s : Slot) (e : String) (he : s.eni = some e) (a b : Nat)
    (hp : s.faPlan c dn = .assign a b) :
    a ≤ c.cap - (fam false s.ips).length ∧ b ≤ c.cap - (fam true s.ips).length ∧ a ≤ c.batch ∧ b ≤ c.batch := by
  obtain ⟨rfl, rfl⟩ : _ = a ∧ _ = b := by simpa [faPlan_some he] using hp
  omega

/-- a new interface is only asked for by a slot that has none (so interfaces never outnumber slots, the node's quota),
    with 1 to `batch` IPv4 addresses; for `batch = 0` nothing is claimed -/
theorem c06_create_only_without_eni (c : Cfg) (dn : List Nat) (s : Slot) (a b : Nat) (hp : s.faPlan c dn = .create a b) :
    s.eni = none ∧ 1 ≤ a ∧ a ≤ c.batch ∨ c.batch = 0 := by
  cases he : s.eni with
  | some e => simp [faPlan_some he] at hp
  | none =>
    obtain ⟨rfl, _⟩ : _ = a ∧ _ = b := by simpa [faPlan_none he] using hp
    by_cases hz : c.batch = 0
    · exact .inr hz
    · exact .inl ⟨rfl, by omega, by omega⟩

/-- the result of `CreateNetworkInterface` goes to a slot in `creating` state without interface, with at most the
    addresses asked for and an interface id no slot has: `n` slots (`Slot.eni : Option String`) hold at most `n` interfaces -/
theorem c06_created_goes_to_empty_slot (p p' : Pool) (i v4n v6n : Nat) (res : CreateRes)
    (hs : p.step (.faCreated i v4n v6n res) = some p') :
    (p.slot i).eni = none ∧ (p.slot i).status = .creating ∧ res.v4.length ≤ v4n ∧ res.v6.length ≤ v6n ∧
    (∀ e, res.eni = some e → ∀ s ∈ p.slots, s.eni ≠ some e) := by
  simp only [Pool.step, Option.ite_none_right_eq_some, Bool.and_eq_true, decide_eq_true_eq, beq_iff_eq] at hs
  obtain ⟨⟨⟨⟨⟨⟨⟨⟨⟨⟨⟨hst, hen⟩, _⟩, _⟩, hl4⟩, hl6⟩, _⟩, _⟩, _⟩, _⟩, hfresh⟩, _⟩ := hs
  refine ⟨by simpa using hen, hst, hl4, hl6, fun e he s hsm => ?_⟩
  rw [he] at hfresh
  simpa using List.all_eq_true.mp hfresh s hsm

/-- in every reachable state an address marked for unassignment is held by nobody and not primary, so no batch the
    dispose worker takes contains a held or the primary address -/
theorem c06_marked_is_idle_and_secondary (cfg : Cfg) (n : Nat) (hb : cfg.batch ≤ cfg.cap) (evs : List Ev) (p : Pool)
    (hr : (Pool.init cfg n).run evs = some p) (i : Nat) (a : IP) (ha : a ∈ (p.slot i).ips) (hd : a.st = .deleting) :
    a.owner = none ∧ a.primary = false :=
  (((Pool.Inv.init cfg n).run hb evs hr).1.slotOK i).del a ha hd

/-- the dispose worker's batch consists of marked addresses only, at most `batch` per family -/
theorem c06_unassign_batch (c : Cfg) (dn : List Nat) (s : Slot) (u4 u6 : List Nat) (hp : s.fdPlanOK c dn (.unassign u4 u6) = true) :
    (∀ ip ∈ u4, ∃ a ∈ s.ips, a.ip = ip ∧ a.st = .deleting) ∧ (∀ ip ∈ u6, ∃ a ∈ s.ips, a.ip = ip ∧ a.st = .deleting) ∧
    u4.length ≤ c.batch ∧ u6.length ≤ c.batch := by
  obtain ⟨h4, h6, l4, l6⟩ := fdPlanOK_unassign hp
  have mem : ∀ (six : Bool) (ip : Nat), ip ∈ deletingOf (fam six s.ips) → ∃ a ∈ s.ips, a.ip = ip ∧ a.st = .deleting :=
    fun six ip hip => let ⟨a, ha, _, hs, e⟩ := mem_deletingOf.mp hip; ⟨a, ha, e, hs⟩
  exact ⟨fun ip hip => mem false ip (h4 ip hip), fun ip hip => mem true ip (h6 ip hip), l4, l6⟩

/-- shrinking the pool only marks addresses nobody holds, and never the primary one -/
theorem c06_dispose_marks_only_idle (p p' : Pool) (h : p.Inv) (i n : Nat) (m4 m6 : List Nat)
    (hs : p.step (.dispose i n (.marks m4 m6)) = some p') :
    ∀ a ∈ (p.slot i).ips, a.ip ∈ m4 ++ m6 → a.owner = none := by
  simp only [Pool.step, Option.ite_none_right_eq_some] at hs
  exact fun a ha => disposeOK_marks_unowned (h.slotOK i).keys hs.1 ha

theorem c06_primary_never_marked (l : List IP) (marks : List Nat) (a : IP) (ha : a ∈ l) (hp : a.primary = true) :
    (if a.ip ∈ marks ∧ (!a.primary) = true then ({ a with st := .deleting } : IP) else a) = a := by
  simp [hp]

/-- the dispose worker deletes an interface only in `deleting` state with no address held and no live request waiting
    on it — neither queued for the factory nor already ordered (`dang`) -/
theorem c06_delete_only_unused (c : Cfg) (dn : List Nat) (s : Slot) (e : String) (hp : s.fdPlanOK c dn (.delete e) = true) :
    s.eni = some e ∧ s.status = .deleting ∧ (∀ a ∈ s.ips, a.owner = none) ∧ live dn s.alloc4 = [] ∧ live dn s.alloc6 = [] ∧
      live dn s.dang4 = [] ∧ live dn s.dang6 = [] := by
  obtain ⟨he, hst, hcd⟩ := fdPlanOK_delete hp
  exact ⟨he, hst, (canDispose_some he).mp hcd⟩

/-- `Dispose` never marks for deletion an interface with a live request waiting on it (queued or already ordered) -/
theorem c06_no_whole_dispose_while_request_waits (dn : List Nat) (s : Slot) (n : Nat) (e : String) (he : s.eni = some e)
    (hw : live dn s.alloc4 ≠ [] ∨ live dn s.alloc6 ≠ [] ∨ live dn s.dang4 ≠ [] ∨ live dn s.dang6 ≠ []) :
    s.disposeOK dn n .wholeENI = false := by
  refine Bool.eq_false_iff.mpr fun h => ?_
  obtain ⟨_, a4, a6, d4, d6⟩ := (canDispose_some he).mp (disposeOK_whole h)
  rcases hw with w | w | w | w
  · exact w a4
  · exact w a6
  · exact w d4
  · exact w d6

/-- a whole-interface dispose is only chosen when the interface is unused -/
theorem c06_whole_eni_only_unused (dn : List Nat) (s : Slot) (n : Nat) (h : s.disposeOK dn n .wholeENI = true) :
    s.canDispose dn = true ∨ s.eni = none :=
  .inl (disposeOK_whole h)

def sDemo : Slot :=
  { eni := some "e", status := .inUse, alloc4 := [1, 2, 3], alloc6 := [], dang4 := [], dang6 := [], inhibit := false,
    ips := [{ ip := 101, owner := some "p", st := .valid, primary := true }, { ip := 102, owner := none, st := .deleting, primary := false }] }

/-- limit 3, 2 addresses on the interface (one awaiting unassignment), 3 requests queued, batch 2: one is asked for, not two -/
example : sDemo.faPlan { cap := 3, batch := 2, en4 := true, en6 := false } [] = .assign 1 0 := by decide

/-- the pool has ONE per-interface limit (`MaxIPPerENI`, which `getPoolConfig` sets to the type's IPv4 quota); IPv6 stays
    on in multi-IP mode only when the type's IPv6 quota per interface equals it, so the limit of
    `c06_tracked_plus_asked_within_limit` is the type's quota in each enabled family -/
theorem c06_pool_limit_is_type_quota (l : Capacity.Limits) (cfg : Capacity.Cfg) (os : Bool)
    (h6 : (Capacity.checkInstance l .multiIP cfg os).ipv6 = true) :
    (Capacity.poolConfig cfg .multiIP l).maxIPPerENI = l.ipv6Per ∧ 0 < l.ipv6Per := by
  unfold Capacity.checkInstance at h6
  simp only [decide_eq_true_eq, Capacity.Limits.supportIPv6, Capacity.Limits.supportMultiIPIPv6] at h6
  obtain ⟨_, hpos, hmulti⟩ := h6
  have heq : l.ipv6Per = l.ipv4Per := Decidable.not_not.mp fun h => hmulti (by simp [h])
  exact ⟨by simp [Capacity.poolConfig, heq], by simpa using hpos⟩

/-- the flags behind "never deletes the trunk or an RDMA interface": whenever the cloud is asked at start-up every interface
    gets exactly the flags of its type - also a second Trunk-type interface besides the preferred one, also with trunking off -/
theorem c06_attached_flags_are_types (trunking erdma tags : Bool) (preferred : Option Nat) (tys : List Factory.Ty)
    (h : Factory.asksCloud trunking erdma tags preferred tys.length = true) (i : Nat) (hi : i < tys.length) :
    (Factory.attached trunking erdma tags preferred tys)[i]? = some (decide (tys[i] = .trunk), decide (tys[i] = .rdma)) := by
  unfold Factory.attached
  simp [h, hi]

example : Factory.attached false false true (some 0) [.trunk, .trunk, .rdma] = [(true, false), (true, false), (false, true)] := by decide

end Terway.Props.C06
