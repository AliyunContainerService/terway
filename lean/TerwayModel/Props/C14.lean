import TerwayModel.Proofs.Net
/-!
C14 — Address classifiers, derived gateways and interface names are exact.
The theorems are about `Model/Net.lean`; the tie of that model to the Go code is the correspondence run of `vh C14`
plus the regenerated constants in `Generated/Consts.lean`.
-/
namespace Terway.Props.C14
open Terway.Net

/-! ## Specification side (independent of the code) -/

/-- "address `a` lies in `ip/n`": the first `n` bits, counted from the most significant, agree -/
def PrefixEq32 (a ip : BitVec 32) (n : Nat) : Prop := ∀ j, j < n → a.getMsbD j = ip.getMsbD j

/-- bit `j` (from the most significant) of a four-word IPv6 address -/
def bit6 (a : Addr6) (j : Nat) : Bool := (a.getD (j / 32) 0#32).getMsbD (j % 32)
def PrefixEq6 (a ip : Addr6) (n : Nat) : Prop := ∀ j, j < n → bit6 a j = bit6 ip j

-- header layout (RFC 791 / RFC 8200): byte offset of source / destination address
def ipv4SrcOff : Nat := 12
def ipv4DstOff : Nat := 16
def ipv6SrcOff : Nat := 8

/-- the 32-bit word an IPv4 packet carries at byte offset `off` (only the two address words matter) -/
def pktWord4 (src dst : BitVec 32) (off : Nat) : Option (BitVec 32) :=
  if off = ipv4SrcOff then some src else if off = ipv4DstOff then some dst else none

/-- the word of the IPv6 source address found at byte offset `off` -/
def pktWord6 (src : Addr6) (off : Nat) : Option (BitVec 32) :=
  if ipv6SrcOff ≤ off ∧ (off - ipv6SrcOff) % 4 = 0 ∧ (off - ipv6SrcOff) / 4 < 4
  then some (src.getD ((off - ipv6SrcOff) / 4) 0#32) else none

def keyMatchesPkt4 (k : Key) (src dst : BitVec 32) : Prop :=
  ∃ w, pktWord4 src dst k.off = some w ∧ k.matches w = true
def keysMatchPkt6 (ks : List Key) (src : Addr6) : Prop :=
  ∀ k ∈ ks, ∃ w, pktWord6 src k.off = some w ∧ k.matches w = true

/-! ## C14 clause 1: classifier keys are exact -/

theorem matches_iff {ip a : BitVec 32} {n off : Nat} (hn : n ≤ 32) :
    ({ off := off, mask := mask32 n, val := ip &&& mask32 n } : Key).matches a = true ↔ PrefixEq32 a ip n := by
  unfold Key.matches mask32 PrefixEq32
  simp only [beq_iff_eq]
  exact and_mask_eq_iff hn

/-- IPv4 source key: a packet matches exactly when its source address lies in the CIDR -/
theorem c14_u32_v4_src (ip src dst : BitVec 32) (n : Nat) (hn : n ≤ 32) :
    keyMatchesPkt4 (u32v4Src ip n) src dst ↔ PrefixEq32 src ip n := by
  simp [keyMatchesPkt4, u32v4Src, matches_iff hn, pktWord4, Gen.u32SrcOff4, ipv4SrcOff]

/-- IPv4 destination key (`dstIPRule`): matches exactly when the destination lies in the CIDR -/
theorem c14_u32_v4_dst (ip src dst : BitVec 32) (n : Nat) (hn : n ≤ 32) :
    keyMatchesPkt4 (u32v4Dst ip n) src dst ↔ PrefixEq32 dst ip n := by
  simp [keyMatchesPkt4, u32v4Dst, matches_iff hn, pktWord4, Gen.u32DstOff4, ipv4SrcOff, ipv4DstOff]

/-- **A filter found installed and kept classifies exactly the CIDR it is kept for**: `setupFilters` keeps an installed filter
    only when its key is the rule's own -/
theorem c14_kept_filter_exact (ip ip' src dst : BitVec 32) (n n' : Nat) (hn : n ≤ 32) (hk : keepsInstalled ip n ip' n' = true) :
    keyMatchesPkt4 (u32v4Dst ip' n') src dst ↔ PrefixEq32 dst ip n := by
  rw [of_decide_eq_true hk]
  exact c14_u32_v4_dst ip src dst n hn

example : keepsInstalled 0xa9fe0000#32 16 0xa9fe0000#32 16 = true ∧ keepsInstalled 0xa9fe0000#32 24 0xa9fe0000#32 16 = false := by decide

theorem pktWord6_at (src : Addr6) (i : Nat) (hi : i < 4) :
    pktWord6 src (Gen.u32SrcOff6Base + Gen.u32SrcOff6Step * i) = some (src.getD i 0#32) := by
  simp [pktWord6, ipv6SrcOff, Gen.u32SrcOff6Base, Gen.u32SrcOff6Step, hi]

theorem u32v6Src_words (ip src : Addr6) (n : Nat) :
    keysMatchPkt6 (u32v6Src ip n) src ↔ ∀ i, i < 4 → PrefixEq32 (src.getD i 0#32) (ip.getD i 0#32) (wordPrefix n i) := by
  have hw : ∀ i, wordPrefix n i ≤ 32 := fun i => Nat.min_le_left ..
  unfold keysMatchPkt6 u32v6Src
  dsimp only
  constructor
  · intro h i hi
    rw [← matches_iff (hw i) (off := Gen.u32SrcOff6Base + Gen.u32SrcOff6Step * i)]
    -- the `i`-th key is left out only where its mask is zero, and a zero mask matches every word
    by_cases hm : mask32 (wordPrefix n i) = 0#32
    · simp [Key.matches, hm]
    · obtain ⟨w, hword, hmm⟩ := h _ (List.mem_filterMap.mpr ⟨i, List.mem_range.mpr hi, if_pos hm⟩)
      rw [pktWord6_at src i hi] at hword
      cases hword
      exact hmm
  · intro h k hk
    obtain ⟨i, hi, hk⟩ := List.mem_filterMap.mp hk
    rw [List.mem_range] at hi
    split at hk
    · cases hk
      exact ⟨_, pktWord6_at src i hi, (matches_iff (hw i)).mpr (h i hi)⟩
    · cases hk

/-- IPv6 source keys: the conjunction of the emitted keys holds exactly when the 128-bit source
    address lies in the prefix. -/
theorem c14_u32_v6_src (ip src : Addr6) (n : Nat) (hn : n ≤ 128) :
    keysMatchPkt6 (u32v6Src ip n) src ↔ PrefixEq6 src ip n := by
  rw [u32v6Src_words]
  unfold PrefixEq6 bit6 PrefixEq32 wordPrefix
  constructor
  · intro h j hj
    exact h (j / 32) (by omega) (j % 32) (by omega)
  · intro h i hi j hj
    have := h (32 * i + j) (by omega)
    rwa [show (32 * i + j) / 32 = i by omega, show (32 * i + j) % 32 = j by omega] at this

/-- prefix length 0 emits no IPv6 key (and `FilterBySrcIP` then applies no filter) -/
theorem c14_u32_v6_zero (ip : Addr6) : u32v6Src ip 0 = [] := by
  simp [u32v6Src, wordPrefix, mask32]

/-! ## C14 clause 2: the derived gateway -/

/-- `x` lies in the subnet of `addr/n` over `w`-bit addresses: same network part -/
def InSubnet (w addr n x : Nat) : Prop := x / 2 ^ (w - n) = addr / 2 ^ (w - n)

/-- `subnetFirst` and `subnetLast` unfold to the bounds `Nat.div_eq_iff` gives -/
theorem inSubnet_iff_range {w addr n x : Nat} :
    InSubnet w addr n x ↔ subnetFirst w addr n ≤ x ∧ x ≤ subnetLast w addr n :=
  Nat.div_eq_iff (Nat.two_pow_pos _)

/-- the derived gateway is the third-from-last address of the subnet -/
theorem c14_gateway_third_from_last (w addr n g : Nat) (h : deriveGateway w addr n = some g) :
    InSubnet w addr n g ∧ InSubnet w addr n (g + 1) ∧ InSubnet w addr n (g + 2) ∧
      ¬ InSubnet w addr n (g + 3) := by
  simp only [inSubnet_iff_range]
  rw [deriveGateway_eq] at h
  split at h
  · cases h; omega
  · cases h

/-- it is empty exactly when the subnet has fewer than three addresses -/
theorem c14_gateway_none_iff (w addr n : Nat) :
    deriveGateway w addr n = none ↔ 2 ^ (w - n) < 3 := by
  have hp : 0 < 2 ^ (w - n) := Nat.two_pow_pos _
  rw [deriveGateway_eq, subnetLast]
  split <;> simp <;> omega

/-- the gateway depends only on the subnet, not on which address of it was given -/
theorem c14_gateway_subnet_only (w a b n : Nat) (h : InSubnet w a n b) :
    deriveGateway w b n = deriveGateway w a n := by
  unfold InSubnet at h
  unfold deriveGateway ipAtNegIndex subnetLast subnetFirst
  rw [h]

/-! ## C14 clause 3: routing-table numbers -/

theorem c14_table_injective (i j : Nat) (h : tableID i = tableID j) : i = j := by
  unfold tableID at h; omega

/-- never collides with the kernel's reserved tables (default 253, main 254, local 255, unspec 0) -/
theorem c14_table_not_reserved (i : Nat) : 255 < tableID i := by
  unfold tableID Gen.routeTableBase; omega

/-! ## C14 clause 4: host-side interface names -/

/-- `11` is `Gen.vethHashLen`: that many hex digits, 44 bits, of the SHA-1 are kept -/
theorem c14_veth_length (pfx : List Char) (ns name ifn : List UInt8) :
    (vethName pfx ns name ifn).length = pfx.length + 11 := by
  unfold vethName
  simp [Sha1.hex_length, Gen.vethHashLen]

/-- at most 15 bytes (IFNAMSIZ − 1) exactly when the prefix has at most four (ASCII) characters -/
theorem c14_veth_fits (pfx : List Char) (ns name ifn : List UInt8) :
    (vethName pfx ns name ifn).length ≤ 15 ↔ pfx.length ≤ 4 := by
  rw [c14_veth_length]; omega

/-- `eth0` and the empty interface name are deliberately the same interface -/
theorem c14_veth_eth0 (pfx : List Char) (ns name : List UInt8) :
    vethName pfx ns name eth0 = vethName pfx ns name [] := by
  simp [vethName, vethPreimage, normIf]

/-- for one pod, different (normalised) interface names give different hash inputs; the names can
    then only coincide on a collision of SHA-1 truncated to 44 bits (cryptographic assumption,
    see trusted base) -/
theorem c14_veth_preimage_injective (ns name i1 i2 : List UInt8)
    (h : vethPreimage ns name i1 = vethPreimage ns name i2) : normIf i1 = normIf i2 := by
  unfold vethPreimage at h
  exact List.append_cancel_left h

example : PrefixEq32 0x0a010203#32 0x0a010000#32 16 ∧ ¬ PrefixEq32 0x0a020203#32 0x0a010000#32 16 := by
  constructor
  · rw [← matches_iff (n := 16) (off := 12) (by decide)]; decide
  · rw [← matches_iff (n := 16) (off := 12) (by decide)]; decide
example : deriveGateway 32 0xC0A80100 24 = some 0xC0A801FD := by decide
example : deriveGateway 32 0xC0A80100 31 = none := by decide
example : deriveGateway 32 0 8 = some 0x00FFFFFD := by decide
example : (u32v6Src [0xfd000000#32, 0#32, 0#32, 1#32] 64).length = 2 := by decide

end Terway.Props.C14
