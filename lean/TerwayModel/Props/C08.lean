import TerwayModel.Proofs.Ipam
/-!
C08 — cluster IPAM respects quotas, converges and rolls back failed ENI creation.
The planning functions (`getEniOptions`, `assignEniWithOptions`) are modelled as `eniOptions` / `planPass` /
`plan` in `Model/Ipam.lean`, deterministically for a given (valid) order of the existing interfaces.
-/
namespace Terway.Props.C08
open Terway.Ipam

/-- what the plan may ask for on one interface: on an existing one no more than its quota leaves and only when it is
    in use, on a new one no more than the quota; never more than one batch -/
def WithinQuota (c : NodeCfg) (o : Option_) : Prop :=
  match o.eni with
  | some e => (o.add4 = 0 ∨ ((e.fam false).length + o.add4 ≤ c.cap4 ∧ o.add4 ≤ c.batch ∧ e.status = .inUse)) ∧
              (o.add6 = 0 ∨ ((e.fam true).length + o.add6 ≤ c.cap6 ∧ o.add6 ≤ c.batch ∧ e.status = .inUse))
  | none => o.add4 ≤ c.cap4 ∧ o.add4 ≤ c.batch ∧ o.add6 ≤ c.cap6 ∧ o.add6 ≤ c.batch

/-- what `planPass` emits for an existing interface in use -/
theorem within_existing {c : NodeCfg} {o : Option_} {e : Eni} (he : o.eni = some e) (hin : e.status = .inUse)
    (ho : WithinQuota c o) (t4 t6 : Int) (full : Bool) :
    let s4 := addStep c.cap4 c.batch (e.fam false).length (allocatable (e.fam false)) t4
    let s6 := addStep c.cap6 c.batch (e.fam true).length (allocatable (e.fam true)) t6
    WithinQuota c { o with add4 := if t4 > 0 ∧ s4.1 > 0 then s4.1 else o.add4,
                           add6 := if t6 > 0 ∧ s6.1 > 0 then s6.1 else o.add6, full := full } := by
  unfold WithinQuota at ho ⊢
  simp only [he] at ho ⊢
  constructor
  · split
    · exact (addStep_bound ..).imp_right fun ⟨q1, q2⟩ => ⟨q1, q2, hin⟩
    · exact ho.1
  · split
    · exact (addStep_bound ..).imp_right fun ⟨q1, q2⟩ => ⟨q1, q2, hin⟩
    · exact ho.2

/-- what `planPass` emits for the slot of a new interface (`t4`, `t6`: the demand after the trunk rule) -/
theorem within_new {c : NodeCfg} {o : Option_} (he : o.eni = none) (ho : WithinQuota c o) (t4 t6 : Int) :
    WithinQuota c { o with add4 := if t4 > 0 then (newStep c.cap4 c.batch t4).1 else o.add4,
                           add6 := if t6 > 0 then (newStep c.cap6 c.batch t6).1 else o.add6 } := by
  unfold WithinQuota at ho ⊢
  simp only [he] at ho ⊢
  have b4 := newStep_bound c.cap4 c.batch t4
  have b6 := newStep_bound c.cap6 c.batch t6
  split <;> split
  · exact ⟨b4.1, b4.2, b6⟩
  · exact ⟨b4.1, b4.2, ho.2.2⟩
  · exact ⟨ho.1, ho.2.1, b6⟩
  · exact ho

theorem planPass_within (c : NodeCfg) (kinds : List Kind) (opts : List Option_) (t4 t6 : Int)
    (h : ∀ o ∈ opts, WithinQuota c o) : ∀ o ∈ planPass c kinds opts t4 t6, WithinQuota c o := by
  induction opts generalizing t4 t6 with
  | nil => exact fun _ ho => nomatch ho
  | cons o rest ih =>
    obtain ⟨ho, hrest⟩ := List.forall_mem_cons.mp h
    unfold planPass
    by_cases hk : (!kinds.contains o.kind) = true
    · rw [if_pos hk]; exact List.forall_mem_cons.mpr ⟨ho, ih _ _ hrest⟩
    rw [if_neg hk]
    split
    · next e he =>
      by_cases hst : (e.status != .inUse) = true
      · rw [if_pos hst]; exact List.forall_mem_cons.mpr ⟨ho, ih _ _ hrest⟩
      · rw [if_neg hst]
        exact List.forall_mem_cons.mpr ⟨within_existing he (by simpa using hst) ho .., ih _ _ hrest⟩
    · next he => exact List.forall_mem_cons.mpr ⟨within_new he ho .., ih _ _ hrest⟩

/-- `getEniOptions` asks for nothing yet: `add4 = add6 = 0` -/
theorem eniOptions_within (c : NodeCfg) (sorted : List Eni) : ∀ o ∈ eniOptions c sorted, WithinQuota c o := by
  have zero : ∀ (e : Option Eni) (k : Kind), WithinQuota c { eni := e, kind := k } := fun e k => by
    cases e <;> simp [WithinQuota]
  intro o ho
  simp only [eniOptions, List.mem_append, List.mem_replicate, List.mem_map] at ho
  rcases ho with ((⟨_, rfl⟩ | ⟨_, rfl⟩) | ⟨e, _, rfl⟩) | ⟨_, rfl⟩ <;> exact zero _ _

/-- the whole plan of `addIP` — for any order of the existing interfaces, any record, any demand — stays within quota -/
theorem c08_plan_within_quota (c : NodeCfg) (sorted : List Eni) (normal rdma : Nat) :
    ∀ o ∈ plan c sorted normal rdma, WithinQuota c o :=
  planPass_within c _ _ _ _ (planPass_within c _ _ _ _ (eniOptions_within c sorted))

/-- the plan never has more interfaces (existing plus new slots) than the node's flavor allows -/
theorem c08_slots_within_flavor (c : NodeCfg) (sorted : List Eni) (h : sorted.length ≤ c.nSecondary + c.nTrunk + c.nRdma) :
    (eniOptions c sorted).length ≤ c.nSecondary + c.nTrunk + c.nRdma := by
  unfold eniOptions
  simp only [List.length_append, List.length_replicate, List.length_map]
  exact slots_le h clamp_le clamp_le

/-- an interface that is not in use (being attached, detached or given up) gets no addresses planned -/
theorem c08_no_plan_on_unattached (c : NodeCfg) (sorted : List Eni) (normal rdma : Nat) (o : Option_)
    (ho : o ∈ plan c sorted normal rdma) (e : Eni) (he : o.eni = some e) (hs : e.status ≠ .inUse) : o.add4 = 0 ∧ o.add6 = 0 := by
  have := c08_plan_within_quota c sorted normal rdma o ho
  unfold WithinQuota at this
  rw [he] at this
  exact ⟨this.1.resolve_right fun q => hs q.2.2, this.2.resolve_right fun q => hs q.2.2⟩

/-! ## non-vacuity -/

def x1 : Entry := { ip := 101, status := .valid, pod := "p", uid := "u", primary := true }
def x2 : Entry := { ip := 102, status := .deleting, pod := "", uid := "", primary := false }
def e1 : Eni := { id := "eni-1", status := .inUse, typ := .secondary, hp := false, ips := [x1, x2] }
def cfg : NodeCfg := { en4 := true, en6 := false, erdma := false, trunk := false, cap4 := 3, cap6 := 3, batch := 10,
                       minPool := 0, maxPool := 2, nSecondary := 2, nTrunk := 0, nRdma := 0 }

/-- 4 pods waiting, one interface with 2 of 3 addresses (one of them being deleted): 1 more there, 3 on a new one -/
example : (plan cfg [e1] 4 0).map (fun o => (o.eni.map (·.id), o.add4)) = [(some "eni-1", 1), (none, 3)] := by
  decide

end Terway.Props.C08
