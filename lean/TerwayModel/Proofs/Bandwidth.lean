import TerwayModel.Model.Bandwidth
/-!
The helpers of Model/Bandwidth.lean on the inputs the C15 theorems meet, and the regenerated fact those theorems are
proved from.
-/
namespace Terway.Bandwidth

/-- the source has the guard `if i < 0 { i = len(s) }`: a regenerated fact; were the guard removed, this `rfl` would
    fail, and with it every theorem about `parseBandwidth` proved from it -/
theorem noLetterGuard : Gen.bwNoLetterGuard = 1 := rfl

theorem indexFunc_eq (p : Char → Bool) (s : List Char) : indexFunc p s = s.findIdx? p := by
  induction s with
  | nil => rfl
  | cons c cs ih => rw [indexFunc, List.findIdx?_cons, ih]

theorem dropWhile_none {p : Char → Bool} {l : List Char} (h : ∀ c ∈ l, p c = false) : l.dropWhile p = l := by
  cases l with
  | nil => rfl
  | cons c cs => simp [List.dropWhile, h c List.mem_cons_self]

theorem trim_id {p : Char → Bool} {l : List Char} (h : ∀ c ∈ l, p c = false) : trim p l = l := by
  unfold trim
  rw [dropWhile_none h, dropWhile_none fun c hc => h c (List.mem_reverse.mp hc), List.reverse_reverse]

/-- no unit means bytes (Go: `case "B", ""`, the regenerated spellings `Gen.bwUnitsB`) -/
theorem mult_empty : mult [] = some 1 := by decide

end Terway.Bandwidth
