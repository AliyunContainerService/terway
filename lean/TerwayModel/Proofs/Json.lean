import TerwayModel.Model.Json
/-!
`lookup_put` and `lookup_erase` are `@[simp]`: a goal about the entry under a literal key after `put`/`erase` of other
literal keys is closed by `simp`.  The chain proofs of Props/C20 rest on that without naming the lemmas.
-/
namespace Terway.Json

@[simp] theorem lookup_put (d : Kvs) (k k' : String) (v : Json) :
    lookup (put d k v) k' = if k = k' then some v else lookup d k' := by
  induction d with
  | nil => rfl
  | cons e d ih =>
    obtain ⟨a, c⟩ := e
    by_cases hk : k = k'
    · subst hk; by_cases h : a = k <;> simp [put, lookup, h, ih]
    · by_cases h : a = k <;> simp [put, lookup, h, hk, ih]

@[simp] theorem lookup_erase (d : Kvs) (k k' : String) :
    lookup (erase d k) k' = if k = k' then none else lookup d k' := by
  induction d with
  | nil => simp [erase, lookup]
  | cons e d ih =>
    obtain ⟨a, c⟩ := e
    by_cases hk : k = k'
    · subst hk; by_cases h : a = k <;> simp [erase, lookup, h, ih]
    · by_cases h : a = k <;> simp [erase, lookup, h, hk, ih]

theorem erase_of_lookup_none {d : Kvs} {k : String} (h : lookup d k = none) : erase d k = d := by
  induction d with
  | nil => rfl
  | cons e d ih => by_cases ha : e.1 = k <;> simp_all [lookup, erase]

theorem put_of_lookup_some {d : Kvs} {k : String} {c : Json} (h : lookup d k = some c) : put d k c = d := by
  induction d with
  | nil => cases h
  | cons e d ih => obtain ⟨a, c'⟩ := e; by_cases ha : a = k <;> simp_all [lookup, put]

theorem put_of_lookup_none {d : Kvs} {k : String} {v : Json} (h : lookup d k = none) : put d k v = d ++ [(k, v)] := by
  induction d with
  | nil => rfl
  | cons e d ih => by_cases ha : e.1 = k <;> simp_all [lookup, put]

theorem lookup_of_mem {p : Kvs} (hu : (keys p).Nodup) {k : String} {v : Json} (hm : (k, v) ∈ p) : lookup p k = some v := by
  induction p with
  | nil => cases hm
  | cons e p ih =>
    obtain ⟨hn, hu⟩ := List.nodup_cons.mp hu
    rcases List.mem_cons.mp hm with rfl | hm
    · simp [lookup]
    · have : e.1 ≠ k := by rintro rfl; exact hn (List.mem_map_of_mem (f := (·.1)) hm)
      simp [lookup, this, ih hu hm]

theorem mergeVal_null (v : Json) : mergeVal .null v = prune v := by cases v <;> rfl

theorem pruneKvs_cons (k : String) (v : Json) (rest : Kvs) :
    pruneKvs ((k, v) :: rest) = if v.isNull then pruneKvs rest else (k, prune v) :: pruneKvs rest := by
  cases v <;> simp [pruneKvs, Json.isNull]

end Terway.Json
