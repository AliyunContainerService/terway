import TerwayModel.Proofs.PodEni
/-!
Interface-side invariant of the PodENI lifecycle model: ids are fresh, what the pod controller has just
created is young and unrecorded, and the leak collector's candidates stay ours, old and unreferenced.
-/
namespace Terway.PE

def Sorted (c : List Eni) : Prop := (c.map (·.id)).Pairwise (· < ·)

theorem Sorted.snoc {l : List Eni} {e : Eni} (h : Sorted l) (hl : ∀ x ∈ l, x.id < e.id) : Sorted (l ++ [e]) := by
  simp only [Sorted, List.map_append, List.map_cons, List.map_nil, List.pairwise_append, List.pairwise_cons, List.Pairwise.nil, List.mem_map, List.mem_cons, List.not_mem_nil, or_false, forall_exists_index, and_imp,
    forall_apply_eq_imp_iff₂]
  exact ⟨h, by simp, fun a ha b hb => hb ▸ hl a ha⟩

theorem Sorted.setAtt {c : List Eni} (h : Sorted c) (id : Nat) (a : Option Nat) : Sorted (setAtt c id a) := by
  simpa [Sorted, setAtt_ids] using h

theorem Sorted.remove {c : List Eni} (h : Sorted c) (id : Nat) : Sorted (remove c id) :=
  List.Pairwise.sublist (remove_ids_sublist c id) h

/-- in a list with strictly increasing ids an id names one entry -/
theorem Sorted.inj {c : List Eni} (h : Sorted c) {a b : Eni} (ha : a ∈ c) (hb : b ∈ c) (hab : a.id = b.id) : a = b :=
  ((List.pairwise_map.mp h).imp Nat.ne_of_lt).eq_of_key ha hb hab

attribute [grind .] Sorted.snoc Sorted.setAtt Sorted.remove Sorted.inj

/-- interface ids in the cloud are strictly increasing (ids are never reused) -/
def CSort (s : St) : Prop :=
  Sorted s.cloud

/-- every interface id is below the next fresh one -/
def CLt (s : St) : Prop :=
  ∀ en ∈ s.cloud, en.id < s.nextEni

/-- so is every id a record names -/
def RLt (s : St) : Prop :=
  ∀ c, s.rcd = some c → ∀ a ∈ c.allocs, a.eni < s.nextEni

/-- interfaces the pod controller has created and not yet recorded: brand new (no clock step since) and named by no record -/
def PMade (s : St) : Prop :=
  ∀ u made f, s.p = .creating u made f → ∀ a ∈ made, a.eni < s.nextEni ∧ (∀ en ∈ s.cloud, en.id = a.eni → en.ctime = s.now) ∧ (∀ c, s.rcd = some c → ∀ b ∈ c.allocs, b.eni ≠ a.eni)

/-- interfaces left to roll back are named by no record -/
def PRoll (s : St) : Prop :=
  ∀ rem, s.p = .rollback rem → ∀ e ∈ rem, e < s.nextEni ∧ ∀ c, s.rcd = some c → ∀ b ∈ c.allocs, b.eni ≠ e

/-- the leak collector's candidates after its cloud listing: ours, older than the grace period, not just created by the pod controller -/
def LCandD (s : St) : Prop :=
  ∀ cands u, s.l = .desc cands u → ∀ e ∈ cands, e < s.nextEni ∧ (∀ en ∈ s.cloud, en.id = e → en.ours = true ∧ en.ctime + grace ≤ s.now) ∧ (∀ u2 made f, s.p = .creating u2 made f → ∀ a ∈ made, a.eni ≠ e)

/-- the same after the record listing -/
def LCandL (s : St) : Prop :=
  ∀ cands u, s.l = .listed cands u → ∀ e ∈ cands, e < s.nextEni ∧ (∀ en ∈ s.cloud, en.id = e → en.ours = true ∧ en.ctime + grace ≤ s.now) ∧ (∀ u2 made f, s.p = .creating u2 made f → ∀ a ∈ made, a.eni ≠ e)

/-- after the listing: named by no record -/
def LList (s : St) : Prop :=
  ∀ cands u, s.l = .listed cands u → ∀ e ∈ cands, ∀ c, s.rcd = some c → ∀ b ∈ c.allocs, b.eni ≠ e

structure Inv3 (s : St) : Prop where
  fCSort : CSort s
  fCLt : CLt s
  fRLt : RLt s
  fPMade : PMade s
  fPRoll : PRoll s
  fLCandD : LCandD s
  fLCandL : LCandL s
  fLList : LList s

theorem Inv3.init : Inv3 {} := by
  constructor <;> simp [CSort, CLt, RLt, PMade, PRoll, LCandD, LCandL, LList, Sorted]

theorem CSort.step {s t : St} {ev : Ev} (h : Inv3 s) (hs : step s ev = some t) : CSort t := by
  have := h.fCSort; have := h.fCLt
  step_cases hs <;> first
    | assumption
    | grind [CSort, CLt]

theorem CLt.step {s t : St} {ev : Ev} (h : Inv3 s) (hs : step s ev = some t) : CLt t := by
  have := h.fCLt
  step_cases hs <;> first
    | assumption
    | grind [CLt]

theorem RLt.step {s t : St} {ev : Ev} (h : Inv3 s) (hs : step s ev = some t) : RLt t := by
  have := h.fRLt; have := h.fPMade
  step_cases hs <;> first
    | assumption
    | grind [RLt, PMade]

theorem PMade.step {s t : St} {ev : Ev} (h : Inv3 s) (hs : step s ev = some t) : PMade t := by
  have := h.fCLt; have := h.fRLt; have := h.fPMade
  step_cases hs <;> first
    | assumption
    | (simp only [PMade, reduceCtorEq, false_imp_iff, implies_true]; done)
    | grind [PMade, CLt, RLt, PPc.inCreate]

theorem PRoll.step {s t : St} {ev : Ev} (h : Inv3 s) (hs : step s ev = some t) : PRoll t := by
  have := h.fPMade; have := h.fPRoll
  step_cases hs <;> first
    | assumption
    | (simp only [PRoll, reduceCtorEq, false_imp_iff, implies_true]; done)
    | grind [PRoll, PMade]

/-- what `LCandD` and `LCandL` say of one candidate `e` (their common body, word for word) -/
def CandOK (s : St) (e : Nat) : Prop :=
  e < s.nextEni ∧ (∀ en ∈ s.cloud, en.id = e → en.ours = true ∧ en.ctime + grace ≤ s.now) ∧
    (∀ u2 made f, s.p = .creating u2 made f → ∀ a ∈ made, a.eni ≠ e)

/-- no event spoils a candidate: ids and the clock only grow, and what the pod controller creates gets a fresh id -/
theorem CandOK.step {s t : St} {ev : Ev} {e : Nat} (h : CandOK s e) (hs : PE.step s ev = some t) : CandOK t e := by
  step_cases hs <;> first
    | assumption
    | grind [CandOK]

theorem LCandD.step {s t : St} {ev : Ev} (h : Inv3 s) (hs : step s ev = some t) : LCandD t := by
  -- the candidates at `t` were in order at `s` already.  The one case with new candidates is `lDescribe`: what the pod
  -- controller has just created has `ctime = now` (`PMade`), a candidate `ctime + grace ≤ now`, and `grace > 0`: this is
  -- what the model's ban on clock steps during a creation is for
  have old : ∀ cands u, t.l = .desc cands u → ∀ e ∈ cands, CandOK s e := by
    have := h.fLCandD; have := h.fCSort; have := h.fCLt; have := h.fPMade
    step_cases hs <;> first
      | assumption
      | (simp only [reduceCtorEq, false_imp_iff, implies_true]; done)
      | grind [LCandD, CandOK, CSort, CLt, PMade]
  exact fun cands u hl e he => (old cands u hl e he).step hs

theorem LCandL.step {s t : St} {ev : Ev} (h : Inv3 s) (hs : step s ev = some t) : LCandL t := by
  -- `lList` keeps some of the candidates `LCandD` speaks of
  have old : ∀ cands u, t.l = .listed cands u → ∀ e ∈ cands, CandOK s e := by
    have := h.fLCandL; have := h.fLCandD
    step_cases hs <;> first
      | assumption
      | (simp only [reduceCtorEq, false_imp_iff, implies_true]; done)
      | grind [LCandL, LCandD, CandOK]
  exact fun cands u hl e he => (old cands u hl e he).step hs

theorem LList.step {s t : St} {ev : Ev} (h : Inv3 s) (hs : step s ev = some t) : LList t := by
  have := h.fLCandL; have := h.fLList
  step_cases hs <;> first
    | assumption
    | (simp only [LList, reduceCtorEq, false_imp_iff, implies_true]; done)
    | grind [LList, LCandL, Rec.enis]

theorem Inv3.step {s t : St} {ev : Ev} (h : Inv3 s) (hs : PE.step s ev = some t) : Inv3 t :=
  ⟨CSort.step h hs, CLt.step h hs, RLt.step h hs, PMade.step h hs, PRoll.step h hs, LCandD.step h hs,
   LCandL.step h hs, LList.step h hs⟩

end Terway.PE
