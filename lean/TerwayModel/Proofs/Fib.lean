import TerwayModel.Model.Fib
/-!
Behind Props/C13.  `ensureRoute` is not characterised (Props/C13 uses only its no-op case): two interfaces behind one ENI
can replace each other's default route.
-/
namespace Terway.Datapath

theorem exists_fam {P : Fam → Prop} : (∃ g, P g) ↔ P .v4 ∨ P .v6 :=
  ⟨fun ⟨g, h⟩ => by cases g; exact .inl h; exact .inr h, fun h => h.elim (⟨_, ·⟩) (⟨_, ·⟩)⟩

theorem forall_fam {P : Fam → Prop} : (∀ g, P g) ↔ P .v4 ∧ P .v6 :=
  ⟨fun h => ⟨h _, h _⟩, fun h g => by cases g; exact h.1; exact h.2⟩

theorem mem_append_fam {α : Type} {F : Fam → List α} {x : α} : x ∈ F .v4 ++ F .v6 ↔ ∃ g, x ∈ F g :=
  List.mem_append.trans (exists_fam (P := fun g => x ∈ F g)).symm

theorem fam_sum (f : Fam) (P : Fam → Prop) [DecidablePred P] :
    (if .v4 = f ∧ P .v4 then 1 else 0) + (if .v6 = f ∧ P .v6 then 1 else 0) = if P f then 1 else 0 := by
  cases f <;> simp

theorem Fam.bits_ne_zero (g : Fam) : g.bits ≠ 0 := by cases g <;> decide

@[simp] theorem Pfx.host_fam (f : Fam) (a : Nat) : (Pfx.host f a).fam = f := rfl

@[simp] theorem Pfx.default_fam (f : Fam) : (Pfx.default f).fam = f := rfl

@[simp] theorem Pfx.host_inj {f g : Fam} {a b : Nat} : Pfx.host f a = Pfx.host g b ↔ f = g ∧ a = b :=
  ⟨fun h => ⟨congrArg Pfx.fam h, congrArg Pfx.addr h⟩, fun h => h.1 ▸ h.2 ▸ rfl⟩

@[simp] theorem Pfx.default_inj {f g : Fam} : Pfx.default f = Pfx.default g ↔ f = g :=
  ⟨congrArg Pfx.fam, congrArg Pfx.default⟩

@[simp] theorem Pfx.host_ne_default {f g : Fam} {a : Nat} : Pfx.host f a ≠ Pfx.default g :=
  fun h => f.bits_ne_zero (congrArg Pfx.len h)

theorem tableOf_ne_zero (link : Nat) : tableOf link ≠ 0 := by
  unfold tableOf Gen.routeTableBase; omega

theorem tableOf_ne_main (e : Nat) : tableOf e ≠ mainTable := by
  unfold tableOf mainTable Gen.routeTableBase; omega

theorem tableOf_inj {i j : Nat} (h : tableOf i = tableOf j) : i = j :=
  Nat.add_left_cancel h

-- only the `defaultRoute` entry is a main-table default route: `multiNet`'s live in the link's table, the rest are host routes

theorem multiNet_noMain (c : Cfg) (g : Fam) (link a : Nat) (p : Pfx) :
    (multiNet c g link a).2.filter (fun r => r.table == 0 && r.dst == p) = [] := by
  unfold multiNet
  split <;> simp [tableOf_ne_zero]

theorem extra_no_default (c : Cfg) (link : Nat) (f : Fam) (hex : ∀ e ∈ c.extra, e.1.len ≠ 0) :
    (extraRoutes c link).filter (fun r => r.table == 0 && r.dst == Pfx.default f) = [] := by
  rw [List.filter_eq_nil_iff]
  intro r hr
  obtain ⟨⟨d, gw⟩, he, rfl⟩ := List.mem_map.mp hr
  have : d ≠ Pfx.default f := fun e => hex _ he (e ▸ rfl)
  cases gw <;> simpa using this

theorem contPolicyFam_defaults (c : Cfg) (f g : Fam) (link : Nat) :
    ((contPolicyFam c g link).1.filter fun r => r.table == 0 && r.dst == Pfx.default f).length =
      if g = f ∧ c.defaultRoute ∧ (c.ip g).isSome then 1 else 0 := by
  unfold contPolicyFam
  cases c.ip g with
  | none => simp
  | some an =>
    simp only [List.filter_append, multiNet_noMain, List.append_nil, List.length_append]
    cases c.defaultRoute <;> simp [List.filter_cons, apply_ite List.length]

theorem contIPVlanFam_defaults (c : Cfg) (f g : Fam) (link : Nat) :
    ((contIPVlanFam c g link).2.1.filter fun r => r.table == 0 && r.dst == Pfx.default f).length =
      if g = f ∧ c.defaultRoute ∧ (c.ip g).isSome then 1 else 0 := by
  unfold contIPVlanFam
  cases c.ip g with
  | none => simp
  | some an =>
    simp only [List.filter_append, multiNet_noMain, List.append_nil, List.length_append]
    cases c.defaultRoute <;> simp [List.filter_cons, apply_ite List.length]

theorem contDirectFam_defaults (c : Cfg) (f g : Fam) (link : Nat) (b : Bool) :
    ((contDirectFam c g link b).1.filter fun r => r.table == 0 && r.dst == Pfx.default f).length =
      if g = f ∧ c.defaultRoute ∧ (c.ip g).isSome then 1 else 0 := by
  unfold contDirectFam
  cases c.ip g with
  | none => simp
  | some an =>
    simp only [List.filter_append, multiNet_noMain, List.append_nil, List.length_append]
    cases c.defaultRoute <;> simp [List.filter_cons, apply_ite List.length]

end Terway.Datapath

namespace Terway.Fib
open Terway.Datapath

theorem prio_order : toContainerPrio < fromContainerPrio ∧ fromContainerPrio < mainRule.prio := by
  simp [toContainerPrio, fromContainerPrio, mainRule, Gen.dpToContainerPriority, Gen.dpFromContainerPriority]

-- the kernel reads table 0 (a `Route` that names none) as main, 254
theorem tableId_zero : tableId 0 = mainTable := rfl

theorem tableId_mainTable : tableId mainTable = mainTable := rfl

theorem tableId_tableOf (e : Nat) : tableId (tableOf e) = tableOf e :=
  if_neg (tableOf_ne_zero e)

theorem pfxContains_host {f g : Fam} {a b : Nat} : pfxContains (Pfx.host f a) g b = true ↔ f = g ∧ a = b := by
  simp only [pfxContains, Pfx.host, Bool.and_eq_true, beq_iff_eq]
  refine and_congr_right ?_
  rintro rfl
  -- a host prefix has the family's full length: both sides are divided by `2 ^ 0`
  simp [eq_comm]

theorem pfxContains_default {f g : Fam} {b : Nat} (hb : b < 2 ^ g.bits) :
    pfxContains (Pfx.default f) g b = true ↔ f = g := by
  unfold pfxContains Pfx.default
  simp only [Bool.and_eq_true, beq_iff_eq, Nat.sub_zero, Nat.zero_div]
  constructor
  · exact fun h => h.1
  · intro h; exact ⟨h, Nat.div_eq_of_lt hb⟩

theorem fam_of_pfxContains {p : Pfx} {f : Fam} {a : Nat} (h : pfxContains p f a = true) : p.fam = f := by
  simp only [pfxContains, Bool.and_eq_true, beq_iff_eq] at h
  exact h.1

theorem insertRule_perm (r : Rule) (l : List Rule) : (insertRule r l).Perm (r :: l) := by
  induction l with
  | nil => exact .refl _
  | cons x xs ih =>
    simp only [insertRule]
    split
    · exact .refl _
    · exact (ih.cons x).trans (.swap r x xs)

theorem sortRules_perm (l : List Rule) : (sortRules l).Perm l := by
  induction l with
  | nil => exact .refl _
  | cons x xs ih => exact (insertRule_perm x _).trans (ih.cons x)

theorem insertRule_sorted (r : Rule) (l : List Rule) (h : l.Pairwise fun a b => a.prio ≤ b.prio) :
    (insertRule r l).Pairwise fun a b => a.prio ≤ b.prio := by
  induction l with
  | nil => simp [insertRule]
  | cons x xs ih =>
    have ⟨hx, hxs⟩ := List.pairwise_cons.mp h
    simp only [insertRule]
    split
    · rename_i hlt
      have hle := Nat.le_of_lt hlt
      exact List.pairwise_cons.mpr ⟨List.forall_mem_cons.2 ⟨hle, fun z hz => Nat.le_trans hle (hx z hz)⟩, h⟩
    · rename_i hge
      refine List.pairwise_cons.mpr ⟨fun z hz => ?_, ih hxs⟩
      rcases List.mem_cons.mp ((insertRule_perm r xs).subset hz) with rfl | hz
      · exact Nat.le_of_not_lt hge
      · exact hx z hz

theorem sortRules_sorted (l : List Rule) : (sortRules l).Pairwise fun a b => a.prio ≤ b.prio := by
  induction l with
  | nil => exact .nil
  | cons x xs ih => exact insertRule_sorted x _ ih

theorem bestRoute_cases (f : Fam) (dst : Nat) (rs : List Route) :
    (bestRoute f dst rs = none ∧ ∀ x ∈ rs, pfxContains x.dst f dst = false) ∨
    ∃ y, bestRoute f dst rs = some y ∧ y ∈ rs ∧ pfxContains y.dst f dst = true ∧
      ∀ x ∈ rs, pfxContains x.dst f dst = true → x.dst.len ≤ y.dst.len := by
  induction rs with
  | nil => exact .inl ⟨rfl, nofun⟩
  | cons r rs ih =>
    simp only [bestRoute, List.forall_mem_cons]
    by_cases hr : pfxContains r.dst f dst = true
    · right
      rcases ih with ⟨hb, hn⟩ | ⟨b, hb, hm, hc, hmax⟩
      · exact ⟨r, by simp [hr, hb], List.mem_cons_self, hr, fun _ => Nat.le_refl _,
          fun x hx hcx => by simp [hn x hx] at hcx⟩
      · by_cases hlt : b.dst.len > r.dst.len
        · exact ⟨b, by simp [hr, hb, hlt], List.mem_cons_of_mem _ hm, hc, fun _ => Nat.le_of_lt hlt, hmax⟩
        · exact ⟨r, by simp [hr, hb, hlt], List.mem_cons_self, hr, fun _ => Nat.le_refl _,
            fun x hx hcx => Nat.le_trans (hmax x hx hcx) (Nat.le_of_not_lt hlt)⟩
    · rcases ih with ⟨hb, hn⟩ | ⟨b, hb, hm, hc, hmax⟩
      · exact .inl ⟨by simp [hr, hb], by simpa using hr, hn⟩
      · exact .inr ⟨b, by simp [hr, hb], List.mem_cons_of_mem _ hm, hc, fun h => absurd h hr, hmax⟩

theorem matches_of_yield {h : Host} {k : Pkt} {r : Rule} (hy : (yield h k r).isSome) : ruleMatches r k = true := by
  unfold yield at hy
  split at hy
  · assumption
  · cases hy

theorem mem_ensureRule {rules : List Rule} {r x : Rule} :
    x ∈ ensureRule rules r ↔ x = r ∨ (x ∈ rules ∧ ruleKey x ≠ ruleKey r) := by
  unfold ensureRule
  simp only [List.mem_append, List.mem_filter, Bool.or_eq_true, decide_eq_true_eq, List.mem_ite_nil_left,
    List.mem_singleton]
  -- `r` is kept by the filter or appended; another rule is kept exactly if its key differs
  by_cases hx : x = r
  · subst hx; simp [Decidable.em]
  · simp [hx]

theorem mem_ensureAll {rs rules : List Rule} {x : Rule} (hp : rs.Pairwise (fun a b => ruleKey a ≠ ruleKey b)) :
    x ∈ rs.foldl ensureRule rules ↔ x ∈ rs ∨ (x ∈ rules ∧ ∀ r ∈ rs, ruleKey x ≠ ruleKey r) := by
  induction rs generalizing rules with
  | nil => simp
  | cons r rs ih =>
    have ⟨hr, hrs⟩ := List.pairwise_cons.mp hp
    rw [List.foldl_cons, ih hrs, mem_ensureRule, List.forall_mem_cons, List.mem_cons]
    -- `r`, once ensured, survives the rest because the keys of `rs` differ from its own
    by_cases hx : x = r
    · subst hx; exact iff_of_true (.inr ⟨.inl rfl, hr⟩) (.inl (.inl rfl))
    · simp [hx, and_assoc]

theorem mem_cleanRules {rules : List Rule} {r : Rule} :
    r ∈ cleanRules rules ↔ r ∈ rules ∧ (isPodPrio r = true →
      r.oif = none ∧ optIn r.dst (deadNets rules) = false ∧ optIn r.src (deadNets rules) = false) := by
  unfold cleanRules
  rw [List.mem_filter]
  cases isPodPrio r <;> simp [and_assoc]

theorem optIn_nil (o : Option Pfx) : optIn o [] = false := by
  cases o <;> rfl

theorem teardownSelects_mainRule {f : Fam} {a : Nat} : ¬ teardownSelects f a mainRule = true := by
  simp [teardownSelects, mainRule]

theorem mem_teardown_rules {p : Pod} {h : Host} {r : Rule} :
    r ∈ (teardown p h).rules ↔
      r ∈ h.rules ∧ ∀ f a n, p.cfg.ip f = some (a, n) → ¬ teardownSelects f a r = true := by
  simp only [teardown, List.mem_filter, Bool.not_eq_true', Bool.or_eq_false_iff, forall_fam, Cfg.ip]
  refine and_congr_right fun _ => and_congr ?_ ?_
  · rcases p.cfg.ip4 with _ | ⟨a, n⟩ <;> simp
  · rcases p.cfg.ip6 with _ | ⟨a, n⟩ <;> simp

theorem mem_teardown_routes {p : Pod} {h : Host} {rt : Route} :
    rt ∈ (teardown p h).routes ↔ rt ∈ h.routes ∧ rt.dev ≠ p.veth := by
  simp [teardown]

end Terway.Fib
