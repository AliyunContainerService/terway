import TerwayModel.Model.Capacity
/-!
What the functions of Model/Capacity.lean compute: the flavor list by its switches, the reservation arithmetic behind
it, the outcomes of one Node CR reconcile.
-/
namespace Terway.Capacity

theorem slots_flavorOf (t e : Bool) (std : Int) :
    slots (flavorOf t e std) = (if t then 1 else 0) + (if e then 1 else 0) + std := by
  cases t <;> cases e <;> simp [slots, flavorOf] <;> omega

theorem mem_flavorOf (t e : Bool) (std : Int) (f : Flavor) :
    f ∈ flavorOf t e std ↔ (t = true ∧ f = ⟨.trunk, 1⟩) ∨ (e = true ∧ f = ⟨.erdma, 1⟩) ∨ f = ⟨.standard, std⟩ := by
  cases t <;> cases e <;> simp [flavorOf]

theorem annoIPs_false_flavorOf (t e : Bool) (std ip : Int) :
    annoIPs false (flavorOf t e std) ip = (if t then ip else 0) + std * ip := by
  cases t <;> cases e <;> simp [annoIPs, flavorOf]

theorem annoIPs_true_flavorOf (t e : Bool) (std ip : Int) : annoIPs true (flavorOf t e std) ip = std := by
  cases t <;> cases e <;> simp [annoIPs, flavorOf]

/-- one reservation step: of `n` slots one is taken when the feature is enabled and a slot is left.  `hasTrunk`/`afterTrunk`
    are this step on the secondary interfaces, `hasErdma`/`afterErdma` on what the trunk left. -/
theorem reserve {b has : Bool} {n after : Int} (hh : has = (b && decide (n > 0))) (ha : after = if has then n - 1 else n) :
    after = n - (if has then 1 else 0) ∧ (if has then (1 : Int) else 0) ≤ max n 0 := by
  subst ha
  split
  · next h => have := of_decide_eq_true (Bool.and_eq_true_iff.mp (hh ▸ h)).2; omega
  · omega

theorem flavor_arith (cap : NodeCap) (sw : Switches) :
    (if hasTrunk cap sw then 1 else 0) + (if hasErdma cap sw then 1 else 0) + afterErdma cap sw = cap.adapters - 1 ∧
    (1 ≤ cap.adapters → 0 ≤ afterErdma cap sw) := by
  have t := reserve (has := hasTrunk cap sw) (after := afterTrunk cap sw) rfl rfl
  have e := reserve (has := hasErdma cap sw) (after := afterErdma cap sw) rfl rfl
  omega

theorem nodeReconcile_cases (cr : Option NodeCR) (info : NodeMeta) (f : Bool) :
    (∃ b, nodeReconcile cr info f = (cr, b) ∧ (b = true → ∃ c, cr = some c ∧ c.md = info)) ∨
    nodeReconcile cr info f = (some ⟨info, some info.type⟩, true) := by
  unfold nodeReconcile
  repeat' split
  all_goals simp_all

end Terway.Capacity
