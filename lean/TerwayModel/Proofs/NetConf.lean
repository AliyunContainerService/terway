import TerwayModel.Model.NetConf
/-! Behind Props/C12. -/
namespace Terway.NetConf
open Terway.Net

theorem setFirstDefault_names (l : List Entry) : (setFirstDefault l).map (·.ifName) = l.map (·.ifName) := by
  induction l with
  | nil => rfl
  | cons e l ih => simp only [setFirstDefault]; split <;> simp [ih]

/-- which values the three fields get is left out: no theorem asks -/
theorem decorate_some {tm : Option String} {vids : List (String × Nat)} {id : String} {base c : NetConf}
    (h : decorate tm vids id base = some c) : ∃ m t v, c = { base with mac := m, trunk := t, vid := v } := by
  unfold decorate at h
  split at h
  · cases h; exact ⟨_, _, _, rfl⟩
  · split at h <;> cases h
    exact ⟨_, _, _, rfl⟩

theorem allocToRPC_some {tm : Option String} {vids : List (String × Nat)} {a : Alloc} {c : NetConf}
    (h : allocToRPC tm vids a = some c) :
    famOK 32 a.ip4 a.cidr4 = true ∧ famOK 128 a.ip6 a.cidr6 = true ∧ ∃ m t v, c = { baseConf a with mac := m, trunk := t, vid := v } := by
  unfold allocToRPC at h
  split at h
  · rename_i hok
    rw [Bool.and_eq_true] at hok
    exact ⟨hok.1, hok.2, decorate_some h⟩
  · cases h

theorem famOK_spec {w : Nat} {ip : Option Nat} {c : Cidr} (h : famOK w ip c = true) {x : Nat} (hx : ip = some x) :
    ∃ addr n g, c = .ok addr n ∧ deriveGateway w addr n = some g ∧ allocGw w ip c = some g := by
  subst hx
  unfold famOK allocGw at h
  unfold allocGw
  cases c with
  | empty => simp at h
  | bad => simp [gatewayOf] at h
  | ok addr n =>
    cases hg : deriveGateway w addr n with
    | none => simp [gatewayOf, hg] at h
    | some g => exact ⟨addr, n, g, rfl, hg, by simp [gatewayOf, hg]⟩

/-- the second argument of `buildIPNet` is the subnet field as `baseConf` fills it -/
theorem famOK_build {w : Nat} {ip : Option Nat} {c : Cidr} (h : famOK w ip c = true) :
    ∃ r, buildIPNet ip (if ip.isSome then c else .empty) = .ok r ∧
      (∀ x addr n, ip = some x → c = .ok addr n → r = some (x, n) ∧ allocGw w ip c = deriveGateway w addr n) ∧
      (ip = none → r = none ∧ allocGw w ip c = none) := by
  cases ip with
  | none => exact ⟨none, rfl, nofun, fun _ => ⟨rfl, rfl⟩⟩
  | some x =>
    obtain ⟨addr, n, g, rfl, hd, hg⟩ := famOK_spec h rfl
    refine ⟨some (x, n), rfl, fun x' addr' n' hx hc => ?_, nofun⟩
    cases hx; cases hc
    exact ⟨rfl, hg.trans hd.symm⟩

theorem parseSetup_dp {t : IPType} {s : Bool} {argIf : String} {a b c d : Nat} {cf : NetConf} {st : Setup}
    (h : parseSetup t s argIf a b c d cf = .ok st) : st.dp = getDataPath t s cf.trunk := by
  unfold parseSetup at h
  split at h
  · cases h; rfl
  · cases h

end Terway.NetConf
