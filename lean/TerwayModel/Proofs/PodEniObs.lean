import TerwayModel.Proofs.PodEniSafe
import TerwayModel.Proofs.PodEniLeak
/-!
Observation times (C11 TTL), who may reap a fixed record, and the accounting of created interfaces (C10 roll-back).
-/
namespace Terway.PE

/-- the last observation is not in the future -/
def ObsLe (s : St) : Prop :=
  ∀ o, s.obs = some o → o ≤ s.now

/-- the record collector has seen the pod of a fixed record and has not written lastSeen yet -/
def GPend (s : St) : Prop := ∃ r p ne, s.g = .seen r p ne ∧ p.requires ne = true ∧ r.fixed = true

/-- the recorded lastSeen of a fixed record is not older than the last observation, unless the collector is about to write it -/
def ObsLs (s : St) : Prop :=
  ∀ c o, s.rcd = some c → c.fixed = true → s.obs = some o → (∃ t, c.lastSeen = some t ∧ o ≤ t) ∨ GPend s

/-- the pod controller only marks a record without fixed address Deleting -/
def PUpdDl (s : St) : Prop :=
  ∀ v, s.p = .upd v .deleting → ∀ c, s.rcd = some c → c.ver = v → c.fixed = false

/-- the pod controller only deletes a record without fixed address -/
def PDelNF (s : St) : Prop :=
  s.p = .delRec → ∀ c, s.rcd = some c → c.fixed = false

/-- every interface is somebody else's, named by the record, held by the pod controller's reconciliation in flight, or was left by a failed roll-back deletion (stated as: it cannot be in none of these) -/
def Acc (s : St) : Prop :=
  ∀ en ∈ s.cloud, en.id ∉ s.ext → en.id ∉ s.leaked → (∀ c, s.rcd = some c → en.id ∉ c.enis) → (∀ rem, s.p = .rollback rem → en.id ∉ rem) → (∀ u made f, s.p = .creating u made f → en.id ∉ made.map (·.eni)) → False

structure Inv4 (s : St) : Prop where
  fObsLe : ObsLe s
  fObsLs : ObsLs s
  fPUpdDl : PUpdDl s
  fPDelNF : PDelNF s
  fAcc : Acc s

theorem Inv4.init : Inv4 {} := by
  constructor <;> simp [ObsLe, ObsLs, PUpdDl, PDelNF, Acc]

theorem ObsLe.step {s t : St} {ev : Ev} (h : Inv4 s) (hs : step s ev = some t) : ObsLe t := by
  have := h.fObsLe
  step_cases hs <;> first
    | assumption
    | grind [ObsLe]

theorem ObsLs.step {s t : St} {ev : Ev} (h : Inv4 s) (hs : step s ev = some t) : ObsLs t := by
  have := h.fObsLe; have := h.fObsLs
  step_cases hs <;> first
    | assumption
    | grind [ObsLs, ObsLe, GPend, PodSeen.requires, Rec.fixed]

theorem PUpdDl.step {s t : St} {ev : Ev} (h1 : Inv1 s) (h : Inv4 s) (hs : step s ev = some t) : PUpdDl t := by
  have := h1.pVerU; have := h.fPUpdDl
  step_cases hs <;> first
    | assumption
    | (simp only [PUpdDl, reduceCtorEq, false_imp_iff, implies_true]; done)
    | grind [PUpdDl]

theorem PDelNF.step {s t : St} {ev : Ev} (h : Inv4 s) (hs : step s ev = some t) : PDelNF t := by
  have := h.fPDelNF
  step_cases hs <;> first
    | assumption
    | (simp only [PDelNF, reduceCtorEq, false_imp_iff, implies_true]; done)
    | grind [PDelNF, Rec.fixed]

theorem Acc.step {s t : St} {ev : Ev} (h1 : Inv1 s) (h : Inv4 s) (hs : step s ev = some t) : Acc t := by
  -- `eSnapD` is for `eFinalize`: the interfaces found absent are the snapshot's, and by its version the record is the snapshot
  have := h1.eSnapD; have := h.fAcc
  step_cases hs <;> first
    | assumption
    | grind [Acc, SnapOK, Rec.enis, List.all_eq_true]

theorem Inv4.step {s t : St} {ev : Ev} (h1 : Inv1 s) (h : Inv4 s) (hs : PE.step s ev = some t) : Inv4 t :=
  ⟨ObsLe.step h hs, ObsLs.step h hs, PUpdDl.step h1 h hs, PDelNF.step h hs, Acc.step h1 h hs⟩

structure Inv (s : St) : Prop where
  i1 : Inv1 s
  i2 : Inv2 s
  i3 : Inv3 s
  i4 : Inv4 s

theorem Inv.init : Inv {} := ⟨Inv1.init, Inv2.init, Inv3.init, Inv4.init⟩

theorem Inv.step {s t : St} {ev : Ev} (h : Inv s) (hs : PE.step s ev = some t) : Inv t :=
  ⟨h.i1.step hs, h.i2.step h.i1 hs, h.i3.step hs, h.i4.step h.i1 hs⟩

theorem Inv.run {s t : St} {evs : List Ev} (h : Inv s) (hs : PE.run s evs = some t) : Inv t :=
  run_preserves Inv.step h hs

end Terway.PE
