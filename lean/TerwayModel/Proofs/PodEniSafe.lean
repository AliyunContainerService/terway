import TerwayModel.Proofs.PodEni
/-!
Safety invariant of the PodENI lifecycle model: a record that is being detached or deleted names a pod
instance that is not running, and what each actor has decided but not yet written stays justified.
Here and in the other two groups each fact has one preservation lemma, whose first line names the facts it rests on.
-/
namespace Terway.PE

theorem requires_false {p : PodSeen} {ne : Bool} (h : p.requires ne = false) :
    p = .absent ∨ ∃ u ex n, p = .present u ex n ∧ (ex = true ∨ (n = false ∧ ne = false)) := by
  cases p with
  | absent => exact .inl rfl
  | present u ex n =>
    refine .inr ⟨u, ex, n, rfl, ?_⟩
    cases ex <;> cases n <;> cases ne <;> simp_all [PodSeen.requires]

attribute [grind .] requires_false

/-- a record on its way out names a pod instance that is not running -/
def J2 (s : St) : Prop :=
  ∀ c, s.rcd = some c → (c.phase = .detaching ∨ c.phase = .deleting ∨ c.del = true) → NotRunning s c.uid

/-- the pod instance a record names needs the record -/
def J3 (s : St) : Prop :=
  ∀ c q, s.rcd = some c → s.pod = some q → c.uid = q.uid → q.needs = true

/-- podDelete / pending unconditional delete: the record names an instance that is not running -/
def PDel (s : St) : Prop :=
  (s.p = .del ∨ s.p = .delRec) → ∀ c, s.rcd = some c → NotRunning s c.uid

/-- podCreate: the instance it saw is the newest so far, and the record names that one or an older one
    (uids grow, so a record with another uid names an instance that is gone: hence `NotRunning` in `PUpd`, `PDel`) -/
def PCre (s : St) : Prop :=
  ∀ u, s.p = .cre u → (∀ c, s.rcd = some c → c.uid ≤ u) ∧ (∀ q, s.pod = some q → u ≤ q.uid)

/-- a pending status write: if the record is still the one read, its instance is not running
    (the last conjunct keeps Unbind from going back to Detaching) -/
def PUpd (s : St) : Prop :=
  ∀ v ph, s.p = .upd v ph → (ph = .detaching ∨ ph = .deleting) ∧ ∀ c, s.rcd = some c → c.ver = v → NotRunning s c.uid ∧ (ph = .detaching → c.phase ≠ .unbind ∧ c.phase ≠ .detaching ∧ c.phase ≠ .deleting)

/-- reConfig: if the record is still the one read, it is unbound and owned by the uid read -/
def PRec (s : St) : Prop :=
  ∀ u v ru, s.p = .reconf u v ru → ∀ c, s.rcd = some c → c.ver = v → c.phase = .unbind ∧ c.del = false ∧ c.uid = ru

/-- detach / tear-down in flight: the record is still that one and still on its way out -/
def EDet (s : St) : Prop :=
  ∀ r tear, s.e = .detach r tear → (tear = true → r.del = true) ∧ (tear = false → r.phase = .detaching ∧ r.del = false) ∧ s.rcd ≠ none ∧ ∀ c, s.rcd = some c → c.allocs = r.allocs ∧ c.uid = r.uid ∧ (c.del = true ∨ c.phase = .detaching ∨ c.phase = .deleting) ∧ (r.del = true → c.del = true)

/-- attach in flight: the record read was initial or binding -/
def EAtt (s : St) : Prop :=
  ∀ r fn i f, s.e = .attach r fn i f → (r.phase = .initial ∨ r.phase = .binding) ∧ r.del = false

/-- pending delete of a Deleting record: it still is -/
def EDel (s : St) : Prop :=
  s.e = .delRec → s.rcd ≠ none ∧ ∀ c, s.rcd = some c → c.phase = .deleting ∨ c.del = true

/-- the collector found the pod absent or not needing the record: if the record is still the one listed, its instance is not running -/
def GSeen (s : St) : Prop :=
  ∀ r p ne, s.g = .seen r p ne → p.requires ne = false → ∀ c, s.rcd = some c → c.ver = r.ver → NotRunning s c.uid

structure Inv2 (s : St) : Prop where
  fJ2 : J2 s
  fJ3 : J3 s
  fPDel : PDel s
  fPCre : PCre s
  fPUpd : PUpd s
  fPRec : PRec s
  fEDet : EDet s
  fEAtt : EAtt s
  fEDel : EDel s
  fGSeen : GSeen s

theorem Inv2.init : Inv2 {} := by
  constructor <;> simp [J2, J3, PDel, PCre, PUpd, PRec, EDet, EAtt, EDel, GSeen]

theorem J2.step {s t : St} {ev : Ev} (h1 : Inv1 s) (h : Inv2 s) (hs : step s ev = some t) : J2 t := by
  have := h1.recUid; have := h.fJ2; have := h.fPDel; have := h.fPUpd; have := h.fPRec; have := h.fEDel; have := h.fGSeen
  step_cases hs <;> first
    | assumption
    | grind [J2, NotRunning, PDel, PUpd, PRec, EDel, GSeen]

theorem J3.step {s t : St} {ev : Ev} (h1 : Inv1 s) (h : Inv2 s) (hs : step s ev = some t) : J3 t := by
  have := h1.recUid; have := h1.pUidR; have := h1.pUidM; have := h.fJ3
  step_cases hs <;> first
    | assumption
    | grind [J3]

theorem PDel.step {s t : St} {ev : Ev} (h1 : Inv1 s) (h : Inv2 s) (hs : step s ev = some t) : PDel t := by
  have := h1.recUid; have := h.fPDel; have := h.fPCre
  step_cases hs <;> first
    | assumption
    | (simp only [PDel, reduceCtorEq, false_imp_iff, implies_true, or_self]; done)
    | grind [PDel, PCre, NotRunning]

theorem PCre.step {s t : St} {ev : Ev} (h1 : Inv1 s) (h : Inv2 s) (hs : step s ev = some t) : PCre t := by
  have := h1.podLt; have := h1.recUid; have := h1.pUidC; have := h.fPCre
  step_cases hs <;> first
    | assumption
    | (simp only [PCre, reduceCtorEq, false_imp_iff, implies_true]; done)
    | grind [PCre]

theorem PUpd.step {s t : St} {ev : Ev} (h1 : Inv1 s) (h : Inv2 s) (hs : step s ev = some t) : PUpd t := by
  have := h1.recUid; have := h1.pVerU; have := h.fPDel; have := h.fPCre; have := h.fPUpd
  step_cases hs <;> first
    | assumption
    | (simp only [PUpd, reduceCtorEq, false_imp_iff, implies_true]; done)
    | grind [PUpd, PDel, PCre, NotRunning]

theorem PRec.step {s t : St} {ev : Ev} (h1 : Inv1 s) (h : Inv2 s) (hs : step s ev = some t) : PRec t := by
  have := h1.pVerR; have := h.fPRec
  step_cases hs <;> first
    | assumption
    | (simp only [PRec, reduceCtorEq, false_imp_iff, implies_true]; done)
    | grind [PRec]

theorem EDet.step {s t : St} {ev : Ev} (h : Inv2 s) (hs : step s ev = some t) : EDet t := by
  have := h.fPUpd; have := h.fPRec; have := h.fEDet
  step_cases hs <;> first
    | assumption
    | (simp only [EDet, reduceCtorEq, false_imp_iff, implies_true]; done)
    | grind [EDet, PUpd, PRec]

theorem EAtt.step {s t : St} {ev : Ev} (h : Inv2 s) (hs : step s ev = some t) : EAtt t := by
  have := h.fEAtt
  step_cases hs <;> first
    | assumption
    | (simp only [EAtt, reduceCtorEq, false_imp_iff, implies_true]; done)
    | grind [EAtt]

theorem EDel.step {s t : St} {ev : Ev} (h : Inv2 s) (hs : step s ev = some t) : EDel t := by
  have := h.fPUpd; have := h.fPRec; have := h.fEDel
  step_cases hs <;> first
    | assumption
    | (simp only [EDel, reduceCtorEq, false_imp_iff, implies_true]; done)
    | grind [EDel, PUpd, PRec]

theorem GSeen.step {s t : St} {ev : Ev} (h1 : Inv1 s) (h : Inv2 s) (hs : step s ev = some t) : GSeen t := by
  have := h1.recUid; have := h1.gSnapS; have := h.fJ3; have := h.fGSeen
  step_cases hs <;> first
    | assumption
    | (simp only [GSeen, reduceCtorEq, false_imp_iff, implies_true]; done)
    | grind [GSeen, NotRunning, J3, SnapOK]

theorem Inv2.step {s t : St} {ev : Ev} (h1 : Inv1 s) (h : Inv2 s) (hs : PE.step s ev = some t) : Inv2 t :=
  ⟨J2.step h1 h hs, J3.step h1 h hs, PDel.step h1 h hs, PCre.step h1 h hs, PUpd.step h1 h hs, PRec.step h1 h hs,
   EDet.step h hs, EAtt.step h hs, EDel.step h hs, GSeen.step h1 h hs⟩

end Terway.PE
