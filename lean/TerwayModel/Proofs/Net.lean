import TerwayModel.Model.Net
/-! Behind Props/C14 and C12.  `BitVec.allOnes w <<< (w - n)` is the shape of `mask32 n`. -/
namespace Terway.Net

theorem getMsbD_mask {w n : Nat} (j : Nat) (hn : n ≤ w) : (BitVec.allOnes w <<< (w - n)).getMsbD j = decide (j < n) := by
  rw [BitVec.getMsbD_shiftLeft, BitVec.getMsbD_allOnes]
  exact decide_eq_decide.mpr (by omega)

theorem and_mask_eq_iff {w : Nat} {a ip : BitVec w} {n : Nat} (hn : n ≤ w) :
    (a &&& (BitVec.allOnes w <<< (w - n)) = ip &&& (BitVec.allOnes w <<< (w - n))) ↔
      ∀ j, j < n → a.getMsbD j = ip.getMsbD j := by
  constructor
  · intro h j hj
    simpa [getMsbD_mask j hn, hj] using congrArg (·.getMsbD j) h
  · intro h
    refine BitVec.eq_of_getMsbD_eq fun j _ => ?_
    rw [BitVec.getMsbD_and, BitVec.getMsbD_and, getMsbD_mask j hn]
    by_cases hj : j < n
    · rw [h j hj]
    · simp [hj]

/-- `DeriveGatewayIP` with the index `Gen.gatewayIndex = -3` evaluated -/
theorem deriveGateway_eq (w addr n : Nat) : deriveGateway w addr n =
    if subnetFirst w addr n + 2 ≤ subnetLast w addr n then some (subnetLast w addr n - 2) else none := rfl

end Terway.Net
