import TerwayModel.Model.Agent
import TerwayModel.Proofs.List
/-!
Invariant of the node agent's reporting (Model/Agent.lean), kept by every event.
-/
namespace Terway.Agent

/-- the second conjunct is what a report pass needs to keep the first -/
def Inv (s : St) : Prop :=
  (∀ e ∈ s.rt, e.deleted = true → e.uid ∈ s.dels ∨ e.uid ∈ s.verified) ∧ (∀ p ∈ s.pending, p.1 ∈ s.dels)

theorem deleted_setDeleted {rt : List Entry} {u : Nat} {okID : Bool} {uid : Nat} :
    (∃ e ∈ setDeleted rt u okID, e.uid = uid ∧ e.deleted = true) ↔
      (∃ e ∈ rt, e.uid = uid ∧ e.deleted = true) ∨ u = uid := by
  unfold setDeleted
  split
  · next hany =>
    obtain ⟨x, hx, hxu⟩ := List.any_eq_true.mp hany
    have hxu : x.uid = u := eq_of_beq hxu
    constructor
    · rintro ⟨e', he', h⟩
      rcases List.mem_map_ite.mp he' with ⟨e, _, hu, rfl⟩ | ⟨he, _⟩
      · exact .inr (hu.symm.trans h.1)
      · exact .inl ⟨e', he, h⟩
    · rintro (⟨e, he, h1, h2⟩ | rfl)
      · refine ⟨_, List.mem_map_of_mem he, ?_⟩
        split
        · exact ⟨h1, rfl⟩
        · exact ⟨h1, h2⟩
      · exact ⟨_, List.mem_map_of_mem hx, by rw [if_pos hxu]; exact ⟨hxu, rfl⟩⟩
  · simp [or_and_right, exists_or]

theorem deleted_foldl_setDeleted {ps : List (Nat × Bool)} {rt : List Entry} {uid : Nat} :
    (∃ e ∈ ps.foldl (fun rt p => setDeleted rt p.1 p.2) rt, e.uid = uid ∧ e.deleted = true) ↔
      (∃ e ∈ rt, e.uid = uid ∧ e.deleted = true) ∨ ∃ p ∈ ps, p.1 = uid := by
  induction ps generalizing rt with
  | nil => simp
  | cons p ps ih =>
    rw [List.foldl_cons, ih, deleted_setDeleted, or_assoc]
    simp only [List.mem_cons, exists_eq_or_imp]

/-- when nothing is pending the pass is skipped, and the fold over `[]` is `s.rt` too -/
theorem sync_rt (s : St) : (step s (.sync true)).rt = s.pending.foldl (fun rt p => setDeleted rt p.1 p.2) s.rt := by
  cases h : s.pending <;> simp [step, h]

theorem del_pending (s : St) (uid : Nat) (okID : Bool) : (uid, okID) ∈ (step s (.del uid okID)).pending := by
  simp only [step]
  split
  · next hany =>
    obtain ⟨x, hx, hxu⟩ := List.any_eq_true.mp hany
    exact List.mem_map.mpr ⟨x, hx, if_pos (eq_of_beq hxu)⟩
  · exact List.mem_append_right _ (List.mem_singleton.mpr rfl)

theorem clean_deleted {s : St} {l : List Nat} {v : Nat → Verdict} {ok : Bool} {e : Entry}
    (he : e ∈ (step s (.clean l v ok)).rt) (hd : e.deleted = true) :
    ∃ e0 ∈ s.rt, e0.uid = e.uid ∧ (e0.deleted = true ∨ cleanHits l v e0 = true) := by
  simp only [step] at he
  split at he
  · rcases List.mem_map_ite.mp he with ⟨e0, he0, hc, rfl⟩ | ⟨he0, _⟩
    · exact ⟨e0, he0, rfl, .inr hc⟩
    · exact ⟨e, he0, rfl, .inl hd⟩
  · exact ⟨e, he, rfl, .inl hd⟩

theorem mem_clean_verified {s : St} {l : List Nat} {v : Nat → Verdict} {ok : Bool} {u : Nat} :
    u ∈ (step s (.clean l v ok)).verified ↔ (∃ e ∈ s.rt, cleanHits l v e = true ∧ e.uid = u) ∨ u ∈ s.verified := by
  cases ok <;>
    simp only [step, cleanHits, List.mem_append, List.mem_map, List.mem_filter, Bool.and_eq_true, and_assoc,
      Bool.false_eq_true, if_false, if_true]

theorem Inv.init : Inv {} := .intro (fun _ he => nomatch he) (fun _ hp => nomatch hp)

theorem Inv.step {s : St} (h : Inv s) (ev : Ev) : Inv (step s ev) := by
  obtain ⟨h1, h2⟩ := h
  -- `Agent.step`: a bare `step` would name this theorem, `Inv.step`
  cases ev with
  | del uid okID =>
    refine ⟨fun e he hd => (h1 e he hd).imp_left (List.mem_cons_of_mem _), ?_⟩
    have h2' := fun p hp => List.mem_cons_of_mem uid (h2 p hp)
    simp only [Agent.step]
    split
    · exact List.forall_mem_map.mpr fun q hq => by split; exact List.mem_cons_self; exact h2' q hq
    · exact List.forall_mem_append.mpr ⟨h2', fun p hp => List.mem_singleton.mp hp ▸ List.mem_cons_self⟩
  | sync ok =>
    simp only [Agent.step]
    split
    · refine ⟨fun e he hd => ?_, fun _ hp => nomatch hp⟩
      rcases deleted_foldl_setDeleted.mp ⟨e, he, rfl, hd⟩ with ⟨e0, he0, hu, hd0⟩ | ⟨p, hp, hu⟩
      · exact hu ▸ h1 e0 he0 hd0
      · exact .inl (hu ▸ h2 p hp)
    · exact ⟨h1, h2⟩
  | back inUsed ok =>
    simp only [Agent.step]
    split
    · exact ⟨List.forall_mem_append.mpr ⟨fun e he => h1 e (List.mem_filter.mp he).1,
        List.forall_mem_map.mpr fun _ _ hd => nomatch hd⟩, h2⟩
    · exact ⟨h1, h2⟩
  | clean l v ok =>
    refine ⟨fun e he hd => ?_, by cases ok <;> exact h2⟩
    rw [mem_clean_verified, show (Agent.step s (.clean l v ok)).dels = s.dels by cases ok <;> rfl]
    obtain ⟨e0, he0, hu, hd0 | hc⟩ := clean_deleted he hd
    · exact hu ▸ (h1 e0 he0 hd0).imp_right .inr
    · exact .inr (.inl ⟨e0, he0, hc, hu⟩)
  | age => exact ⟨List.forall_mem_map.mpr h1, h2⟩

theorem Inv.run {s : St} (h : Inv s) (evs : List Ev) : Inv (run s evs) := by
  induction evs generalizing s with
  | nil => exact h
  | cons e es ih => exact ih (h.step e)

end Terway.Agent
