import TerwayModel.Model.Pool
import TerwayModel.Proofs.List
/-!
Invariant of the pool model (Props/C01, C06, C07). `PInv` reads only the configuration, the slots and the replies on their way,
and of a slot only its tracked addresses, ENI and outstanding plan (`SameCore`). Every lock region changes one slot, so each
preservation proof is an instance of `PInv.upd`.
-/
namespace Terway.Pool

def KeepsKey (g : IP → IP) : Prop := ∀ a, (g a).ip = a.ip

theorem map_ips {g : IP → IP} (hk : KeepsKey g) (l : List IP) : (l.map g).map (·.ip) = l.map (·.ip) := by
  rw [List.map_map]
  exact List.map_congr_left fun a _ => hk a

theorem fam_map {g : IP → IP} (hk : KeepsKey g) (six : Bool) (l : List IP) : fam six (l.map g) = (fam six l).map g := by
  unfold fam
  rw [List.filter_map]
  congr 1
  exact List.filter_congr fun a _ => by simp [IP.v6, hk a]

theorem fam_nil (six : Bool) : fam six [] = [] := rfl

theorem fam_append (six : Bool) (l m : List IP) : fam six (l ++ m) = fam six l ++ fam six m := List.filter_append ..

theorem mem_newIPs {ips : List Nat} {pr : Option Nat} {st : IPSt} {a : IP} :
    a ∈ newIPs ips pr st ↔ ∃ i ∈ ips, a = { ip := i, owner := none, st := st, primary := pr == some i } := by
  simp [newIPs, eq_comm]

theorem newIPs_ips (ips : List Nat) (pr : Option Nat) (st : IPSt) : (newIPs ips pr st).map (·.ip) = ips := by
  simp [newIPs, Function.comp_def]

theorem fam_newIPs_length {ips : List Nat} {six : Bool} (h : ∀ i ∈ ips, decide (v6Base ≤ i) = six) (pr : Option Nat) (st : IPSt)
    (f : Bool) : (fam f (newIPs ips pr st)).length = if f = six then ips.length else 0 := by
  -- the family test is constant on the new entries
  rw [fam, newIPs, List.filter_map, List.length_map, List.filter_congr (q := fun _ => six == f) fun i hi => by simp [IP.v6, h i hi]]
  split
  · next e => simp [e]
  · next e => simp [Ne.symm e]

theorem putIPs_nil (new : List IP) : putIPs [] new = new := by simp [putIPs]

theorem putIPs_eq_append {l : List IP} {ips : List Nat} {pr : Option Nat} {st : IPSt}
    (hf : ∀ ip ∈ ips, ∀ a ∈ l, a.ip ≠ ip) : putIPs l (newIPs ips pr st) = l ++ newIPs ips pr st := by
  unfold putIPs
  congr 1
  apply List.filter_eq_self.mpr
  intro a ha
  simp only [Bool.not_eq_true', List.any_eq_false, beq_iff_eq]
  intro b hb e
  obtain ⟨i, hi, rfl⟩ := mem_newIPs.mp hb
  exact hf i hi a ha e.symm

theorem mem_putIPs {l new : List IP} {a : IP} : a ∈ putIPs l new ↔ (a ∈ l ∧ ∀ b ∈ new, b.ip ≠ a.ip) ∨ a ∈ new := by
  simp [putIPs]

def Keys (l : List IP) : Prop := (l.map (·.ip)).Nodup

/-- an address marked for unassignment is held by nobody and is not the primary one -/
def DelOK (l : List IP) : Prop := ∀ a ∈ l, a.st = .deleting → a.owner = none ∧ a.primary = false

theorem Keys.eq {l : List IP} (h : Keys l) {a b : IP} (ha : a ∈ l) (hb : b ∈ l) (e : a.ip = b.ip) : a = b :=
  List.Nodup.eq_of_key h ha hb e

theorem Keys.map {l : List IP} (h : Keys l) {f : IP → IP} (hk : KeepsKey f) : Keys (l.map f) := by
  unfold Keys; rw [map_ips hk]; exact h

theorem Keys.filter {l : List IP} (h : Keys l) (q : IP → Bool) : Keys (l.filter q) :=
  (List.filter_sublist.map _).nodup h

theorem Keys.append_new {l : List IP} (h : Keys l) {ips : List Nat} {pr : Option Nat} {st : IPSt}
    (hn : ips.Nodup) (hf : ∀ ip ∈ ips, ∀ a ∈ l, a.ip ≠ ip) : Keys (l ++ newIPs ips pr st) := by
  unfold Keys
  rw [List.map_append, newIPs_ips]
  refine List.nodup_append.mpr ⟨h, hn, fun x hx y hy e => ?_⟩
  obtain ⟨a, ha, rfl⟩ := List.mem_map.mp hx
  exact hf y hy a ha e

theorem DelOK.filter {l : List IP} (h : DelOK l) (q : IP → Bool) : DelOK (l.filter q) :=
  fun a ha hs => h a (List.mem_filter.mp ha).1 hs

theorem DelOK.append {l m : List IP} (h : DelOK l) (g : DelOK m) : DelOK (l ++ m) := by
  intro a ha hs
  rcases List.mem_append.mp ha with c | c
  · exact h a c hs
  · exact g a c hs

theorem DelOK.newIPs (ips : List Nat) (pr : Option Nat) (st : IPSt) (hp : st = .deleting → pr = none) :
    DelOK (newIPs ips pr st) := by
  intro a ha hs
  obtain ⟨i, _, rfl⟩ := mem_newIPs.mp ha
  simp [hp hs]

structure SlotOK (c : Cfg) (s : Slot) : Prop where
  keys : Keys s.ips
  del : DelOK s.ips
  empty : s.eni = none → s.ips = []
  /-- tracked plus asked-for fits the per-ENI limit -/
  cap4 : (fam false s.ips).length + s.plan4 ≤ c.cap
  cap6 : (fam true s.ips).length + s.plan6 ≤ c.cap

structure PInv (c : Cfg) (l : List Slot) (cm : List Pending) : Prop where
  slots : ∀ s ∈ l, SlotOK c s
  /-- the addresses of a reply on its way are bound to the pod it goes to -/
  commits : ∀ x ∈ cm, ∀ ip ∈ x.pick, ∃ a ∈ (slotAt l x.slot).ips, a.ip = ip ∧ a.owner = some x.pod
  onePer : ∀ x ∈ cm, ∀ y ∈ cm, x.pod = y.pod → x = y

def Pool.Inv (p : Pool) : Prop := PInv p.cfg p.slots p.commits

theorem SlotOK.of_nil {c : Cfg} {s : Slot} (hi : s.ips = []) (h4 : s.plan4 ≤ c.cap) (h6 : s.plan6 ≤ c.cap) : SlotOK c s :=
  ⟨by simp [Keys, hi], by simp [DelOK, hi], fun _ => hi, by simpa [hi, fam_nil] using h4, by simpa [hi, fam_nil] using h6⟩

theorem SlotOK.emptySlot (c : Cfg) : SlotOK c Slot.empty := .of_nil rfl (Nat.zero_le _) (Nat.zero_le _)

/-- `updateAt` beyond the end of the list changes nothing, hence `i < l.length` (which `mem_slotAt_lt` gives) -/
theorem slotAt_updateAt (l : List Slot) (i : Nat) (f : Slot → Slot) (j : Nat) :
    slotAt (updateAt l i f) j = if j = i ∧ i < l.length then f (slotAt l i) else slotAt l j := by
  induction l generalizing i j with
  | nil => simp [updateAt]
  | cons s rest ih =>
    unfold slotAt at ih ⊢
    cases i <;> cases j <;> simp [updateAt, ih]

theorem mem_slotAt_lt {l : List Slot} {i : Nat} {a : IP} (ha : a ∈ (slotAt l i).ips) : i < l.length := by
  apply Nat.lt_of_not_le
  intro hi
  simp [slotAt, List.getElem?_eq_none hi, Slot.empty] at ha

theorem forall_slotAt {P : Slot → Prop} (he : P Slot.empty) {l : List Slot} : (∀ s ∈ l, P s) ↔ ∀ j, P (slotAt l j) := by
  constructor
  · intro h j
    unfold slotAt
    cases hj : l[j]? with
    | none => exact he
    | some s => exact h s (List.mem_of_getElem? hj)
  · intro h s hs
    obtain ⟨j, hj⟩ := List.mem_iff_getElem?.mp hs
    simpa [slotAt, hj] using h j

theorem PInv.slotOK {c : Cfg} {l : List Slot} {cm : List Pending} (h : PInv c l cm) (i : Nat) : SlotOK c (slotAt l i) :=
  (forall_slotAt (SlotOK.emptySlot c)).mp h.slots i

structure SameCore (s s' : Slot) : Prop where
  ips : s'.ips = s.ips
  eni : s'.eni = s.eni
  plan4 : s'.plan4 = s.plan4
  plan6 : s'.plan6 = s.plan6

theorem SameCore.refl (s : Slot) : SameCore s s := ⟨rfl, rfl, rfl, rfl⟩
theorem SameCore.trans {a b c : Slot} (h1 : SameCore a b) (h2 : SameCore b c) : SameCore a c :=
  ⟨h2.ips.trans h1.ips, h2.eni.trans h1.eni, h2.plan4.trans h1.plan4, h2.plan6.trans h1.plan6⟩
theorem SameCore.ite {s a b : Slot} {p : Prop} [Decidable p] (h1 : SameCore s a) (h2 : SameCore s b) :
    SameCore s (if p then a else b) := by
  split <;> assumption

theorem SameCore.withIps {s t : Slot} (h : SameCore s t) (F : List IP → List IP) :
    SameCore { s with ips := F s.ips } { t with ips := F t.ips } :=
  ⟨congrArg F h.ips, h.eni, h.plan4, h.plan6⟩

theorem SlotOK.same {c : Cfg} {s s' : Slot} (h : SlotOK c s) (e : SameCore s s') : SlotOK c s' :=
  ⟨e.ips ▸ h.keys, e.ips ▸ h.del, fun hn => e.ips ▸ h.empty (e.eni ▸ hn), e.ips ▸ e.plan4 ▸ h.cap4, e.ips ▸ e.plan6 ▸ h.cap6⟩

/-- slot `i` becomes `f (slotAt l i)`, which the invariant cannot tell from `s'`; `hown` asks for every entry of a pod
    with a reply on its way, not only those the reply picked -/
theorem PInv.upd {c : Cfg} {l : List Slot} {cm : List Pending} (h : PInv c l cm) {i : Nat} {f : Slot → Slot} {s' : Slot}
    (hs : SameCore s' (f (slotAt l i))) (hok : SlotOK c s')
    (hown : ∀ x ∈ cm, ∀ a ∈ (slotAt l i).ips, a.owner = some x.pod → ∃ a' ∈ s'.ips, a'.ip = a.ip ∧ a'.owner = some x.pod) :
    PInv c (updateAt l i f) cm := by
  refine ⟨(forall_slotAt (SlotOK.emptySlot c)).mpr fun j => ?_, fun x hx ip hip => ?_, h.onePer⟩
  · rw [slotAt_updateAt]
    split
    · exact hok.same hs
    · exact h.slotOK j
  · obtain ⟨a, ha, e1, e2⟩ := h.commits x hx ip hip
    rw [slotAt_updateAt]
    split
    · next hj =>
      obtain ⟨a', ha', f1, f2⟩ := hown x hx a (hj.1 ▸ ha) e2
      exact ⟨a', hs.ips ▸ ha', f1.trans e1, f2⟩
    · exact ⟨a, ha, e1, e2⟩

theorem PInv.updSame {c : Cfg} {l : List Slot} {cm : List Pending} (h : PInv c l cm) {i : Nat} {f : Slot → Slot}
    (hs : SameCore (slotAt l i) (f (slotAt l i))) : PInv c (updateAt l i f) cm :=
  h.upd hs (h.slotOK i) fun _ _ a ha ho => ⟨a, ha, rfl, ho⟩

theorem same_setAlloc (s : Slot) (six : Bool) (q : List Nat) : SameCore s (s.setAlloc six q) := by
  unfold Slot.setAlloc; split <;> exact ⟨rfl, rfl, rfl, rfl⟩
theorem same_setDang (s : Slot) (six : Bool) (q : List Nat) : SameCore s (s.setDang six q) := by
  unfold Slot.setDang; split <;> exact ⟨rfl, rfl, rfl, rfl⟩
theorem same_purgeAlloc (s : Slot) (dn : List Nat) (six : Bool) : SameCore s (s.purgeAlloc dn six) := same_setAlloc _ _ _
theorem same_purgeDang (s : Slot) (dn : List Nat) (six : Bool) : SameCore s (s.purgeDang dn six) := same_setDang _ _ _

theorem same_switchQ (dn : List Nat) (s : Slot) (six : Bool) (r : Nat) : SameCore s (s.switchQ dn six r) := by
  unfold Slot.switchQ
  refine .ite ?_ (.refl s)
  split <;> exact (same_setAlloc _ _ _).trans (same_setDang _ _ _)

theorem same_workerExit (dn : List Nat) (s : Slot) (r : Nat) : SameCore s (s.workerExit dn r) :=
  (same_switchQ dn s false r).trans (same_switchQ dn _ true r)

theorem same_faHeadPurge (dn : List Nat) (s : Slot) : SameCore s (s.faHeadPurge dn) :=
  (same_purgeAlloc s dn false).trans (.ite (same_purgeAlloc _ dn true) (.refl _))

theorem same_faPlanPurge (dn : List Nat) (s : Slot) : SameCore s (s.faPlanPurge dn) :=
  (same_purgeAlloc _ _ _).trans (same_purgeAlloc _ _ _)

theorem same_canDisposePurge (dn : List Nat) (s : Slot) : SameCore s (s.canDisposePurge dn) := by
  have h1 := same_purgeAlloc s dn false
  have h2 := h1.trans (same_purgeAlloc _ dn true)
  have h3 := h2.trans (same_purgeDang _ dn false)
  exact .ite (.refl s) (.ite h1 (.ite h2 (.ite h3 (h3.trans (same_purgeDang _ dn true)))))

theorem same_fdHead (dn : List Nat) (s : Slot) : SameCore s (s.fdHead dn) := .ite (same_canDisposePurge dn s) (.refl s)

theorem same_allocPurge (c : Cfg) (dn : List Nat) (s : Slot) (pod : String) (nc : Bool) (pin : String) :
    SameCore s (s.allocPurge c dn pod nc pin) := by
  have h1 : SameCore s (if c.en4 && (nc || peekNone s.ips pod false) then s.purgeAlloc dn false else s) :=
    .ite (same_purgeAlloc s dn false) (.refl s)
  exact .ite (.refl s) (.ite h1 (.ite (h1.trans (same_purgeAlloc _ dn true)) h1))

theorem same_pop (s : Slot) (six : Bool) (n : Nat) : SameCore s (s.pop six n) :=
  .ite ((same_setDang _ _ _).trans (same_setAlloc _ _ _)) ((same_setDang _ _ _).trans (same_setAlloc _ _ _))

theorem same_onError (s : Slot) (c : Code) : SameCore s (s.onError c) := by
  cases c <;> exact ⟨rfl, rfl, rfl, rfl⟩

theorem setOwner_eq (l : List IP) (ips : List Nat) (o : Option String) :
    setOwner l ips o = l.map fun a => if a.ip ∈ ips then { a with owner := o } else a := rfl
theorem releaseIPs_eq (l : List IP) (pod : String) (ips : List Nat) :
    releaseIPs l pod ips = l.map fun a => if a.ip ∈ ips ∧ a.owner = some pod then { a with owner := none } else a := rfl
theorem disposeIPs_eq (l : List IP) (ips : List Nat) :
    disposeIPs l ips = l.map fun a => if a.ip ∈ ips ∧ (!a.primary) = true then { a with st := .deleting } else a := rfl
theorem syncIPs_eq (l : List IP) (remote : List Nat) :
    syncIPs l remote = l.map fun a => if a.st = .valid ∧ a.ip ∉ remote then { a with st := .invalid } else a := rfl

theorem commitIPs_eq (l : List IP) (pod : String) (ips fresh : List Nat) (d : Bool) :
    commitIPs l pod ips fresh d = if d then setOwner l ips (some pod) else releaseIPs (setOwner l ips (some pod)) pod fresh := rfl

/-- `setOwner`, `releaseIPs`, `disposeIPs`, `syncIPs` all have this shape: entries that meet `p` change by a `g` that keeps
    the address -/
theorem SlotOK.relabel {c : Cfg} {s : Slot} (h : SlotOK c s) {p : IP → Prop} [DecidablePred p] {g : IP → IP} (hk : KeepsKey g)
    (hd : ∀ a ∈ s.ips, p a → (g a).st = .deleting → (g a).owner = none ∧ (g a).primary = false) :
    SlotOK c { s with ips := s.ips.map fun a => if p a then g a else a } := by
  have hk' : KeepsKey fun a => if p a then g a else a := fun a => by simp only [apply_ite IP.ip, hk a, ite_self]
  refine ⟨h.keys.map hk', fun b hb hs => ?_, fun hn => by simp [h.empty hn],
    by simpa [fam_map hk'] using h.cap4, by simpa [fam_map hk'] using h.cap6⟩
  rcases List.mem_map_ite.mp hb with ⟨a, ha, hc, rfl⟩ | ⟨hb', _⟩
  · exact hd a ha hc hs
  · exact h.del b hb' hs

theorem SlotOK.setOwner {c : Cfg} {s : Slot} (h : SlotOK c s) (ips : List Nat) (pod : String)
    (hp : ∀ a ∈ s.ips, a.ip ∈ ips → a.st ≠ .deleting) : SlotOK c { s with ips := setOwner s.ips ips (some pod) } :=
  h.relabel (fun _ => rfl) fun a ha hi hs => absurd hs (hp a ha hi)

theorem SlotOK.releaseIPs {c : Cfg} {s : Slot} (h : SlotOK c s) (pod : String) (ips : List Nat) :
    SlotOK c { s with ips := releaseIPs s.ips pod ips } :=
  h.relabel (fun _ => rfl) fun a ha _ hs => ⟨rfl, (h.del a ha hs).2⟩

theorem SlotOK.commitIPs {c : Cfg} {s : Slot} (h : SlotOK c s) (pod : String) (ips fresh : List Nat) (d : Bool)
    (hp : ∀ a ∈ s.ips, a.ip ∈ ips → a.st ≠ .deleting) :
    SlotOK c { s with ips := commitIPs s.ips pod ips fresh d } := by
  cases d
  · exact (h.setOwner ips pod hp).releaseIPs pod fresh
  · exact h.setOwner ips pod hp

theorem SlotOK.disposeIPs {c : Cfg} {s : Slot} (h : SlotOK c s) (marks : List Nat)
    (hu : ∀ a ∈ s.ips, a.ip ∈ marks → a.owner = none) : SlotOK c { s with ips := disposeIPs s.ips marks } :=
  h.relabel (fun _ => rfl) fun a ha hc _ => ⟨hu a ha hc.1, by simpa using hc.2⟩

theorem SlotOK.syncIPs {c : Cfg} {s : Slot} (h : SlotOK c s) (remote : List Nat) :
    SlotOK c { s with ips := syncIPs s.ips remote } :=
  h.relabel (fun _ => rfl) fun _ _ _ hs => nomatch hs

/-- an entry keeps its address and its owner through a relabelling that, if it applies to the entry, gives it that owner -/
theorem relabel_keeps {p : IP → Prop} [DecidablePred p] {g : IP → IP} {l : List IP} {a : IP} {o : Option String}
    (hk : KeepsKey g) (ha : a ∈ l) (ho : a.owner = o) (hg : p a → (g a).owner = o) :
    ∃ a' ∈ l.map fun b => if p b then g b else b, a'.ip = a.ip ∧ a'.owner = o := by
  by_cases c : p a
  · exact ⟨g a, List.mem_map.mpr ⟨a, ha, if_pos c⟩, hk a, hg c⟩
  · exact ⟨a, List.mem_map.mpr ⟨a, ha, if_neg c⟩, rfl, ho⟩

theorem setOwner_entry {l : List IP} {a : IP} (ha : a ∈ l) (ips : List Nat) (o : Option String) :
    ∃ a' ∈ setOwner l ips o, a'.ip = a.ip ∧ a'.owner = if a.ip ∈ ips then o else a.owner :=
  ⟨_, List.mem_map_of_mem ha, by split <;> rfl, by split <;> rfl⟩

theorem setOwner_keeps {l : List IP} {pod q : String} {ips : List Nat} {a : IP} (ha : a ∈ l) (ho : a.owner = some q)
    (h1 : a.ip ∈ ips → q = pod) : ∃ a' ∈ setOwner l ips (some pod), a'.ip = a.ip ∧ a'.owner = some q :=
  relabel_keeps (fun _ => rfl) ha ho fun hi => h1 hi ▸ rfl

theorem releaseIPs_other {l : List IP} {a : IP} (ha : a ∈ l) {pod : String} {ips : List Nat}
    (h : ¬(a.ip ∈ ips ∧ a.owner = some pod)) : a ∈ releaseIPs l pod ips :=
  List.mem_map.mpr ⟨a, ha, if_neg h⟩

theorem commitIPs_keeps {l : List IP} {pod q : String} {ips fresh : List Nat} {a : IP} (ha : a ∈ l) (ho : a.owner = some q)
    (h1 : a.ip ∈ ips → q = pod) (h2 : a.ip ∈ fresh → q ≠ pod) (d : Bool) :
    ∃ a' ∈ commitIPs l pod ips fresh d, a'.ip = a.ip ∧ a'.owner = some q := by
  obtain ⟨a', ha', e1, e2⟩ := setOwner_keeps ha ho h1
  cases d
  · exact ⟨a', releaseIPs_other ha' fun hc => h2 (e1 ▸ hc.1) (Option.some.inj (e2.symm.trans hc.2)), e1, e2⟩
  · exact ⟨a', ha', e1, e2⟩

theorem peekOK_iff {l : List IP} {pod : String} {six : Bool} {a : IP} :
    peekOK l pod six a = true ↔ a ∈ l ∧ a.v6 = six ∧
      if pod ≠ "" ∧ (fam six l).any (·.owner == some pod) = true then a.owner = some pod else a.st = .valid ∧ a.owner = none := by
  unfold peekOK
  split <;> simp [IP.allocatable, IP.inUse, and_assoc]

theorem peekOK_own_or_free {l : List IP} {pod : String} {six : Bool} {a : IP} (h : peekOK l pod six a = true) :
    a ∈ l ∧ (a.owner = some pod ∨ a.owner = none ∧ a.st = .valid) := by
  obtain ⟨hm, _, hc⟩ := peekOK_iff.mp h
  split at hc
  · exact ⟨hm, .inl hc⟩
  · exact ⟨hm, .inr hc.symm⟩

theorem peekOK_not_deleting {l : List IP} (hd : DelOK l) {pod : String} {six : Bool} {a : IP}
    (h : peekOK l pod six a = true) : a.st ≠ .deleting := by
  intro hs
  obtain ⟨hm, ho | ⟨_, hv⟩⟩ := peekOK_own_or_free h
  · rw [(hd a hm hs).1] at ho; cases ho
  · rw [hv] at hs; cases hs

theorem peekOK_of_picked {l : List IP} (hk : Keys l) {pod : String} {pick : List IP}
    (hp : pick.all (fun a => peekOK l pod a.v6 a) = true) {a : IP} (ha : a ∈ l) (hi : a.ip ∈ pick.map (·.ip)) :
    peekOK l pod a.v6 a = true := by
  obtain ⟨pe, hpe, e⟩ := List.mem_map.mp hi
  have h := List.all_eq_true.mp hp pe hpe
  rwa [hk.eq (peekOK_own_or_free h).1 ha e] at h

theorem pick_owner {l : List IP} (hk : Keys l) {pod : String} {pick : List IP}
    (hp : pick.all (fun a => peekOK l pod a.v6 a) = true) {a : IP} (ha : a ∈ l) (hi : a.ip ∈ pick.map (·.ip))
    {q : String} (ho : a.owner = some q) : q = pod := by
  rcases (peekOK_own_or_free (peekOK_of_picked hk hp ha hi)).2 with o | ⟨o, _⟩ <;> rw [ho] at o
  · exact Option.some.inj o
  · cases o

theorem allocOutcome_direct {c : Cfg} {dn : List Nat} {s : Slot} {pod : String} {nc : Bool} {pin : String} {pick : List IP}
    (h : allocOutcomeOK c dn s pod nc pin (.direct pick) = true) : pick.all (fun a => peekOK s.ips pod a.v6 a) = true := by
  unfold allocOutcomeOK at h
  simp only at h
  split at h
  · simp at h
  · split at h
    · simp at h
    · simp only [Bool.and_eq_true] at h
      exact h.2

theorem PInv.dropCommits {c : Cfg} {l : List Slot} {cm : List Pending} (h : PInv c l cm) (q : Pending → Bool) :
    PInv c l (cm.filter q) :=
  ⟨h.slots, fun x hx => h.commits x (List.mem_filter.mp hx).1,
   fun x hx y hy => h.onePer x (List.mem_filter.mp hx).1 y (List.mem_filter.mp hy).1⟩

theorem PInv.addCommit {c : Cfg} {l : List Slot} {cm : List Pending} (h : PInv c l cm) {x : Pending}
    (hno : cm.any (·.pod == x.pod) = false)
    (hb : ∀ ip ∈ x.pick, ∃ a ∈ (slotAt l x.slot).ips, a.ip = ip ∧ a.owner = some x.pod) : PInv c l (x :: cm) := by
  have hno : ∀ z ∈ cm, z.pod ≠ x.pod := by simpa using hno
  refine ⟨h.slots, List.forall_mem_cons.mpr ⟨hb, h.commits⟩, fun y hy z hz e => ?_⟩
  rcases List.mem_cons.mp hy with rfl | hy' <;> rcases List.mem_cons.mp hz with rfl | hz'
  · rfl
  · exact absurd e.symm (hno z hz')
  · exact absurd e (hno y hy')
  · exact h.onePer y hy' z hz' e

theorem same_allocate (c : Cfg) (dn : List Nat) (s : Slot) (r : Req) (pin : String) (out : AllocOut) :
    SameCore (match out with
      | .direct pick => { s with ips := setOwner s.ips (pick.map (·.ip)) (some r.pod) }
      | _ => s) (s.allocate c dn r pin out) := by
  have hs0 := same_allocPurge c dn s r.pod r.nocache pin
  cases out with
  | rejected => exact hs0
  | direct pick => exact hs0.withIps (setOwner · _ _)
  | queued =>
    refine hs0.trans ?_
    unfold Slot.allocate
    simp only
    split <;> split <;> exact ⟨rfl, rfl, rfl, rfl⟩

theorem PInv.allocate {p : Pool} (h : PInv p.cfg p.slots p.commits) (i : Nat) (r : Req) (pin : String) (out : AllocOut)
    (hok : allocOutcomeOK p.cfg p.done (p.slot i) r.pod r.nocache pin out = true)
    (hone : p.commits.any (·.pod == r.pod) = false) :
    PInv p.cfg (updateAt p.slots i fun s => s.allocate p.cfg p.done r pin out)
      (match out with
       | .direct pick => { req := r.id, pod := r.pod, slot := i, pick := pick.map (·.ip), fresh := freshOf pick r.pod } :: p.commits
       | _ => p.commits) := by
  cases out with
  | rejected => exact h.updSame (same_allocate _ _ _ r pin .rejected)
  | queued => exact h.updSame (same_allocate _ _ _ r pin .queued)
  | direct pick =>
    have hsl := h.slotOK i
    have hd := same_allocate p.cfg p.done (slotAt p.slots i) r pin (.direct pick)
    have hpk : pick.all (fun a => peekOK (slotAt p.slots i).ips r.pod a.v6 a) = true := allocOutcome_direct hok
    refine PInv.addCommit ?_ hone fun ip hip => ?_
    · -- a picked entry that has an owner is the pod's own already
      exact h.upd hd (hsl.setOwner _ _ fun a ha hi => peekOK_not_deleting hsl.del (peekOK_of_picked hsl.keys hpk ha hi))
        fun x _ a ha ho => setOwner_keeps ha ho (pick_owner hsl.keys hpk ha · ho)
    · obtain ⟨pe, hpe, rfl⟩ := List.mem_map.mp hip
      have hm := (peekOK_own_or_free (List.all_eq_true.mp hpk pe hpe)).1
      obtain ⟨a', ha', e1, e2⟩ := setOwner_entry hm (pick.map (·.ip)) (some r.pod)
      rw [slotAt_updateAt, if_pos ⟨rfl, mem_slotAt_lt hm⟩]
      exact ⟨a', hd.ips ▸ ha', e1, by rw [e2, if_pos hip]⟩

theorem PInv.commit {c : Cfg} {l : List Slot} {cm : List Pending} (h : PInv c l cm) {x : Pending} (hx : x ∈ cm) (d : Bool) :
    PInv c (updateAt l x.slot fun s => { s with ips := Pool.commitIPs s.ips x.pod x.pick x.fresh d }) (cm.filter (·.req != x.req)) := by
  have hsl := h.slotOK x.slot
  have hpick : ∀ a ∈ (slotAt l x.slot).ips, a.ip ∈ x.pick → a.owner = some x.pod := by
    intro a ha hi
    obtain ⟨b, hb, e1, e2⟩ := h.commits x hx a.ip hi
    rwa [hsl.keys.eq ha hb e1.symm]
  refine (h.dropCommits _).upd (.refl _) (hsl.commitIPs _ _ _ d fun a ha hi hs => ?_) fun y hy a ha ho => ?_
  · have := (hsl.del a ha hs).1
    rw [hpick a ha hi] at this; cases this
  · -- another reply goes to another pod
    have hy' := List.mem_filter.mp hy
    have hne : y.pod ≠ x.pod := fun e => by simp [h.onePer y hy'.1 x hx e] at hy'
    exact commitIPs_keeps ha ho (fun hi => Option.some.inj (ho.symm.trans (hpick a ha hi))) (fun _ => hne) d

theorem mem_freshOf {pick : List IP} {pod : String} {i : Nat} :
    i ∈ freshOf pick pod ↔ ∃ b ∈ pick, b.owner ≠ some pod ∧ b.ip = i := by
  simp [freshOf, and_assoc]

theorem PInv.workerServe {c : Cfg} {l : List Slot} {cm : List Pending} (h : PInv c l cm) (i r : Nat) (dn : List Nat)
    (pod : String) (pick : List IP) (d : Bool)
    (hpk : pick.all (fun a => peekOK (slotAt l i).ips pod a.v6 a) = true) :
    PInv c (updateAt l i fun s =>
      ({ s with ips := Pool.commitIPs s.ips pod (pick.map IP.ip) (freshOf pick pod) d }).workerExit dn r) cm := by
  have hsl := h.slotOK i
  refine h.upd (same_workerExit dn _ r)
    (hsl.commitIPs pod _ _ d fun a ha hi => peekOK_not_deleting hsl.del (peekOK_of_picked hsl.keys hpk ha hi))
    fun x _ a ha ho => commitIPs_keeps ha ho (pick_owner hsl.keys hpk ha · ho) (fun hf => ?_) d
  -- freshly bound: it was not the serving pod's before
  obtain ⟨b, hb, hbo, e⟩ := mem_freshOf.mp hf
  rw [hsl.keys.eq (peekOK_own_or_free (List.all_eq_true.mp hpk b hb)).1 ha e, ho] at hbo
  exact fun e => hbo (e ▸ rfl)

/-- `hno`: the addresses of a reply on its way to `pod` must stay `pod`'s, so `pod` releases nothing meanwhile -/
theorem PInv.release {c : Cfg} {l : List Slot} {cm : List Pending} (h : PInv c l cm) (i : Nat) (eni pod : String) (ips : List Nat)
    (hno : cm.any (·.pod == pod) = false) : PInv c (updateAt l i fun s => s.release eni pod ips) cm := by
  have hno : ∀ x ∈ cm, x.pod ≠ pod := by simpa using hno
  unfold Slot.release
  by_cases he : (slotAt l i).eni = some eni
  · refine h.upd (by rw [if_pos he]; exact .refl _) ((h.slotOK i).releaseIPs pod ips) fun x hx a ha ho => ?_
    exact ⟨a, releaseIPs_other ha fun hc => hno x hx (Option.some.inj (ho.symm.trans hc.2)), rfl, ho⟩
  · exact h.updSame (by rw [if_neg he]; exact .refl _)

theorem disposeMarks_unowned {l : List IP} (hk : Keys l) {six : Bool} {n : Nat} {marks : List Nat}
    (h : disposeMarksOK (fam six l) n marks = true) {a : IP} (ha : a ∈ l) (hi : a.ip ∈ marks) : a.owner = none := by
  unfold disposeMarksOK at h
  simp only [Bool.and_eq_true] at h
  have hall := List.all_eq_true.mp h.1.1.1 a.ip hi
  simp only [Bool.or_eq_true, List.any_eq_true, List.mem_filter, Bool.and_eq_true, Bool.not_eq_true', beq_iff_eq] at hall
  -- either way the marked address is that of an entry nobody holds, and `a` is that entry
  have : ∃ b ∈ l, b.inUse = false ∧ b.ip = a.ip := by
    rcases hall with ⟨b, ⟨hb, ⟨hu, _⟩, _⟩, e⟩ | ⟨b, ⟨hb, ⟨hu, _⟩, _⟩, e⟩ <;> exact ⟨b, (List.mem_filter.mp hb).1, hu, e⟩
  obtain ⟨b, hb, hu, e⟩ := this
  rw [← hk.eq hb ha e]
  simpa [IP.inUse] using hu

theorem canDispose_some {dn : List Nat} {s : Slot} {e : String} (he : s.eni = some e) :
    s.canDispose dn = true ↔ (∀ a ∈ s.ips, a.owner = none) ∧ live dn s.alloc4 = [] ∧ live dn s.alloc6 = [] ∧
      live dn s.dang4 = [] ∧ live dn s.dang6 = [] := by
  simp [Slot.canDispose, he, IP.inUse, and_assoc]

theorem disposeOK_whole {dn : List Nat} {s : Slot} {n : Nat} (h : s.disposeOK dn n .wholeENI = true) :
    s.canDispose dn = true := by
  unfold Slot.disposeOK at h
  split at h
  · simp at h
  · split at h
    · next h1 => exact (Bool.and_eq_true _ _ ▸ h1).2
    · simp at h

theorem disposeOK_marks {dn : List Nat} {s : Slot} {n : Nat} {m4 m6 : List Nat} (h : s.disposeOK dn n (.marks m4 m6) = true) :
    disposeMarksOK (fam false s.ips) n m4 = true ∧ disposeMarksOK (fam true s.ips) n m6 = true := by
  unfold Slot.disposeOK at h
  split at h
  · simp at h
  · split at h
    · simp at h
    · simp only [Bool.and_eq_true] at h
      exact ⟨h.1.1.1, h.1.1.2⟩

theorem disposeOK_marks_unowned {dn : List Nat} {s : Slot} (hk : Keys s.ips) {n : Nat} {m4 m6 : List Nat}
    (h : s.disposeOK dn n (.marks m4 m6) = true) {a : IP} (ha : a ∈ s.ips) (hi : a.ip ∈ m4 ++ m6) : a.owner = none :=
  (List.mem_append.mp hi).elim (disposeMarks_unowned hk (disposeOK_marks h).1 ha) (disposeMarks_unowned hk (disposeOK_marks h).2 ha)

theorem same_dispose (dn : List Nat) (s : Slot) (n : Nat) (out : DisposeOut) :
    SameCore (match out with
      | .marks m4 m6 => { s with ips := disposeIPs s.ips (m4 ++ m6) }
      | _ => s) (s.dispose dn n out) := by
  -- the `canDispose` evaluation only purges queues
  have hs0 : SameCore s (if s.eni.isSome && s.status == .inUse &&
      decide (max (fam false s.ips).length (fam true s.ips).length ≤ n) then s.canDisposePurge dn else s) :=
    .ite (same_canDisposePurge dn s) (.refl s)
  cases out with
  | nothing => exact hs0
  | wholeENI => exact hs0.trans ⟨rfl, rfl, rfl, rfl⟩
  | marks m4 m6 => exact hs0.withIps (disposeIPs · _)

theorem PInv.dispose {c : Cfg} {l : List Slot} {cm : List Pending} (h : PInv c l cm) (i n : Nat) (dn : List Nat) (out : DisposeOut)
    (hok : (slotAt l i).disposeOK dn n out = true) : PInv c (updateAt l i fun s => s.dispose dn n out) cm := by
  have hsl := h.slotOK i
  cases out with
  | nothing => exact h.updSame (same_dispose dn _ n .nothing)
  | wholeENI => exact h.updSame (same_dispose dn _ n .wholeENI)
  | marks m4 m6 =>
    exact h.upd (same_dispose dn _ n (.marks m4 m6))
      (hsl.disposeIPs (m4 ++ m6) fun a ha => disposeOK_marks_unowned hsl.keys hok ha)
      fun _ _ _ ha ho => relabel_keeps (fun _ => rfl) ha ho fun _ => ho

theorem PInv.sync {c : Cfg} {l : List Slot} {cm : List Pending} (h : PInv c l cm) (i : Nat) (remote : Option (List Nat)) :
    PInv c (updateAt l i fun s => s.sync remote) cm := by
  cases remote with
  | none => exact h.updSame (.ite (.refl _) (.refl _))
  | some r =>
    unfold Slot.sync
    by_cases hc : ((slotAt l i).eni.isNone || (slotAt l i).status != .inUse) = true
    · exact h.updSame (by rw [if_pos hc]; exact .refl _)
    · exact h.upd (by rw [if_neg hc]; exact .refl _) ((h.slotOK i).syncIPs r)
        fun _ _ _ ha ho => relabel_keeps (fun _ => rfl) ha ho fun _ => ho

theorem faPlan_none {c : Cfg} {dn : List Nat} {s : Slot} (he : s.eni = none) :
    s.faPlan c dn = .create (min c.batch (max (live dn s.alloc4).length 1)) (min c.batch (live dn s.alloc6).length) := by
  simp [Slot.faPlan, he]

theorem faPlan_some {c : Cfg} {dn : List Nat} {s : Slot} {e : String} (he : s.eni = some e) :
    s.faPlan c dn = .assign (min (min c.batch (live dn s.alloc4).length) (c.cap - (fam false s.ips).length))
      (min (min c.batch (live dn s.alloc6).length) (c.cap - (fam true s.ips).length)) := by
  simp [Slot.faPlan, he]

theorem faPlan_fits {c : Cfg} (dn : List Nat) {s : Slot} (h : SlotOK c s) (hb : c.batch ≤ c.cap) :
    match s.faPlan c dn with
    | .create a b | .assign a b => (fam false s.ips).length + a ≤ c.cap ∧ (fam true s.ips).length + b ≤ c.cap := by
  have h4 := h.cap4
  have h6 := h.cap6
  cases he : s.eni with
  | none =>
    -- a new interface is asked for with up to `batch` addresses whatever is queued: the one place that needs `hb`
    simp only [faPlan_none he, h.empty he, fam_nil, List.length_nil]
    omega
  | some e =>
    simp only [faPlan_some he]
    omega

/-- what each family gains its outstanding plan gives up (`h4`, `h6`) -/
theorem SlotOK.addNew {c : Cfg} {s s' : Slot} (h : SlotOK c s) {ips : List Nat} {st : IPSt}
    (hn : ips.Nodup) (hf : ∀ ip ∈ ips, ∀ a ∈ s.ips, a.ip ≠ ip)
    (e1 : s'.ips = s.ips ++ newIPs ips none st) (e2 : s'.eni = none → s'.ips = [])
    (h4 : (fam false (newIPs ips none st)).length + s'.plan4 ≤ s.plan4)
    (h6 : (fam true (newIPs ips none st)).length + s'.plan6 ≤ s.plan6) : SlotOK c s' := by
  have c4 := h.cap4
  have c6 := h.cap6
  refine ⟨e1 ▸ h.keys.append_new hn hf, e1 ▸ h.del.append (.newIPs ips none st fun _ => rfl), e2, ?_, ?_⟩
  · rw [e1, fam_append, List.length_append]; omega
  · rw [e1, fam_append, List.length_append]; omega

/-- the slot right after a successful `CreateNetworkInterface` -/
theorem SlotOK.created {c : Cfg} {s' : Slot} {v4 v6 : List Nat} {pr : Nat} {n4 n6 : Nat}
    (e1 : s'.ips = putIPs (putIPs [] (newIPs v4 (some pr) .valid)) (newIPs v6 none .valid)) (e2 : s'.eni ≠ none)
    (e3 : s'.plan4 = 0) (e4 : s'.plan6 = 0) (hn : (v4 ++ v6).Nodup)
    (h4 : ∀ i ∈ v4, decide (v6Base ≤ i) = false) (h6 : ∀ i ∈ v6, decide (v6Base ≤ i) = true)
    (l4 : v4.length ≤ n4) (l6 : v6.length ≤ n6) (c4 : n4 ≤ c.cap) (c6 : n6 ≤ c.cap) : SlotOK c s' := by
  have hips : s'.ips = newIPs v4 (some pr) .valid ++ newIPs v6 none .valid := by
    rw [e1, putIPs_nil, putIPs_eq_append]
    intro ip hip a ha e
    obtain ⟨i, hi, rfl⟩ := mem_newIPs.mp ha
    exact (List.nodup_append.mp hn).2.2 i hi ip hip e
  refine ⟨?_, hips ▸ (DelOK.newIPs v4 _ .valid nofun).append (.newIPs v6 _ .valid nofun), (absurd · e2), ?_, ?_⟩
  · unfold Keys
    rw [hips, List.map_append, newIPs_ips, newIPs_ips]
    exact hn
  · rw [hips, e3, fam_append, List.length_append, fam_newIPs_length h4, fam_newIPs_length h6]
    -- `show` decides the tests `false = false`, `false = true` that `fam_newIPs_length` leaves
    show v4.length + 0 + 0 ≤ c.cap
    omega
  · rw [hips, e4, fam_append, List.length_append, fam_newIPs_length h4, fam_newIPs_length h6]
    show 0 + v6.length + 0 ≤ c.cap
    omega

theorem same_created (s : Slot) (v4n v6n : Nat) (res : CreateRes) :
    SameCore { s with eni := res.eni, ips := (if res.err.isSome then s.ips else
      putIPs (putIPs s.ips (newIPs res.v4 (some res.primary) .valid)) (newIPs res.v6 none .valid)) } (s.created v4n v6n res) := by
  unfold Slot.created
  cases res.err with
  | some c =>
    have h := same_onError s c
    cases res.eni <;> exact ⟨h.ips, rfl, h.plan4, h.plan6⟩
  | none =>
    have h := (same_pop { s with eni := res.eni } false v4n).trans (same_pop _ true v6n)
    exact ⟨congrArg (fun l => putIPs (putIPs l _) _) h.ips, h.eni, h.plan4, h.plan6⟩

theorem same_assigned (s : Slot) (six : Bool) (res : AssignRes) :
    SameCore { s with ips := putIPs s.ips (newIPs res.ips none (if res.err.isSome then .deleting else .valid)) }
      (s.assigned six res) := by
  unfold Slot.assigned
  cases res.err with
  | some c => exact same_onError _ c
  | none => exact (same_pop s six res.ips.length).withIps (putIPs · _)

theorem PInv.updPlan {c : Cfg} {l : List Slot} {cm : List Pending} (h : PInv c l cm) {i : Nat} {f : Slot → Slot} {n4 n6 : Nat}
    (hb4 : (fam false (slotAt l i).ips).length + n4 ≤ c.cap) (hb6 : (fam true (slotAt l i).ips).length + n6 ≤ c.cap)
    (hs : SameCore { slotAt l i with plan4 := n4, plan6 := n6 } (f (slotAt l i))) : PInv c (updateAt l i f) cm :=
  have hsl := h.slotOK i
  h.upd hs ⟨hsl.keys, hsl.del, hsl.empty, hb4, hb6⟩ fun _ _ a ha ho => ⟨a, ha, rfl, ho⟩

/-- the factory worker's region after `AssignNIPv4/6`: the result is applied, that family's plan reset -/
theorem PInv.assigned {c : Cfg} {l : List Slot} {cm : List Pending} (h : PInv c l cm) {i : Nat} {six : Bool} {res : AssignRes}
    {f : Slot → Slot}
    (hs : SameCore (if six then { (slotAt l i).assigned six res with plan6 := 0 } else { (slotAt l i).assigned six res with plan4 := 0 })
      (f (slotAt l i)))
    (hlen : res.ips.length ≤ if six then (slotAt l i).plan6 else (slotAt l i).plan4) (hn : res.ips.Nodup)
    (hfam : ∀ ip ∈ res.ips, decide (v6Base ≤ ip) = six) (hnew : ∀ ip ∈ res.ips, ∀ a ∈ (slotAt l i).ips, a.ip ≠ ip)
    (he : (slotAt l i).eni = none → res.ips = []) : PInv c (updateAt l i f) cm := by
  have hsl := h.slotOK i
  have ha := same_assigned (slotAt l i) six res
  have hips := ha.ips.trans (putIPs_eq_append hnew)
  have hemp : ((slotAt l i).assigned six res).eni = none → ((slotAt l i).assigned six res).ips = [] := fun hn => by
    have hn := ha.eni ▸ hn
    rw [hips, hsl.empty hn, he hn]; rfl
  have hfl := fam_newIPs_length hfam none (if res.err.isSome then .deleting else .valid)
  refine h.upd hs ?_ fun x _ a ha' ho => ⟨a, ?_, rfl, ho⟩
  · cases six with
    | true =>
      exact hsl.addNew hn hnew hips hemp
        (by simp [hfl, ha.plan4]) (by simpa [hfl] using hlen)
    | false =>
      exact hsl.addNew hn hnew hips hemp
        (by simpa [hfl] using hlen) (by simp [hfl, ha.plan6])
  · cases six <;> exact hips ▸ List.mem_append_left _ ha'

theorem mem_deletingOf {l : List IP} {six : Bool} {ip : Nat} :
    ip ∈ deletingOf (fam six l) ↔ ∃ a ∈ l, a.v6 = six ∧ a.st = .deleting ∧ a.ip = ip := by
  simp only [deletingOf, fam, List.mem_map, List.mem_filter, beq_iff_eq, and_assoc]

theorem fdPlanOK_delete {c : Cfg} {dn : List Nat} {s : Slot} {e : String} (h : s.fdPlanOK c dn (.delete e) = true) :
    s.eni = some e ∧ s.status = .deleting ∧ s.canDispose dn = true := by
  unfold Slot.fdPlanOK at h
  cases he : s.eni with
  | none => simp [he] at h
  | some e' =>
    simp only [he] at h
    split at h
    · next hst =>
      split at h
      · next hcd =>
        simp only [beq_iff_eq, FdPlan.delete.injEq] at h
        exact ⟨by rw [h], by simpa using hst, hcd⟩
      · simp at h
    · split at h <;> simp at h

theorem fdPlanOK_unassign {c : Cfg} {dn : List Nat} {s : Slot} {u4 u6 : List Nat} (h : s.fdPlanOK c dn (.unassign u4 u6) = true) :
    (∀ ip ∈ u4, ip ∈ deletingOf (fam false s.ips)) ∧ (∀ ip ∈ u6, ip ∈ deletingOf (fam true s.ips)) ∧
      u4.length ≤ c.batch ∧ u6.length ≤ c.batch := by
  unfold Slot.fdPlanOK at h
  cases he : s.eni with
  | none => simp [he] at h
  | some e =>
    simp only [he] at h
    split at h
    · split at h <;> simp at h
    · split at h
      · simp at h
      · simp only [Bool.and_eq_true, decide_eq_true_eq, List.all_eq_true] at h
        obtain ⟨⟨⟨⟨⟨h4, h6⟩, _⟩, _⟩, l4⟩, l6⟩ := h
        exact ⟨h4, h6, by omega, by omega⟩

theorem fdPlanOK_wait {c : Cfg} {dn : List Nat} {s : Slot} {e : String} (he : s.eni = some e) (hst : s.status ≠ .deleting)
    (h : s.fdPlanOK c dn .wait = true) (six : Bool) : deletingOf (fam six s.ips) = [] := by
  unfold Slot.fdPlanOK at h
  simp only [he, show (s.status == ESt.deleting) = false by simpa using hst, Bool.false_eq_true, if_false] at h
  split at h
  · next hempty =>
    simp only [Bool.and_eq_true, List.isEmpty_iff] at hempty
    cases six
    · exact hempty.1
    · exact hempty.2
  · simp at h

theorem removeIPs_eq (l : List IP) (ips : List Nat) : removeIPs l ips = l.filter fun a => decide (a.ip ∉ ips) := rfl

theorem SlotOK.filterIps {c : Cfg} {s : Slot} (h : SlotOK c s) (q : IP → Bool) : SlotOK c { s with ips := s.ips.filter q } :=
  ⟨h.keys.filter q, h.del.filter q, fun hn => by simp [h.empty hn],
    Nat.le_trans (Nat.add_le_add_right ((List.filter_sublist.filter _).length_le) _) h.cap4,
    Nat.le_trans (Nat.add_le_add_right ((List.filter_sublist.filter _).length_le) _) h.cap6⟩

theorem Pool.Inv.init (cfg : Cfg) (n : Nat) : (Pool.init cfg n).Inv :=
  ⟨fun _ hs => (List.mem_replicate.mp hs).2 ▸ SlotOK.emptySlot cfg, nofun, nofun⟩

/-- that `cfg` stays is part of the statement so that `hb` holds again after the step -/
theorem Pool.Inv.step {p p' : Pool} (h : p.Inv) (hb : p.cfg.batch ≤ p.cfg.cap) (ev : Ev) (hs : p.step ev = some p') :
    p'.Inv ∧ p'.cfg = p.cfg := by
  unfold Pool.Inv at *
  have hsl : ∀ i, SlotOK p.cfg (p.slot i) := h.slotOK
  cases ev with
  | allocate i r pin out =>
    simp only [Pool.step, Option.ite_none_right_eq_some, Bool.and_eq_true, Bool.not_eq_true'] at hs
    have := PInv.allocate h i r pin out hs.1.1 hs.1.2
    cases out <;> (cases hs.2; exact ⟨this, rfl⟩)
  | commit r d =>
    simp only [Pool.step] at hs
    split at hs
    · next c hc =>
      cases hs
      have := PInv.commit h (List.mem_of_find?_eq_some hc) d
      rw [show c.req = r by simpa using List.find?_some hc] at this
      exact ⟨this, rfl⟩
    · cases hs
  | workerServe i r pick d =>
    simp only [Pool.step] at hs
    split at hs
    · next rq _ =>
      simp only [Option.ite_none_right_eq_some, Bool.and_eq_true, Option.some.injEq] at hs
      obtain ⟨hc, rfl⟩ := hs
      exact ⟨PInv.workerServe h i r p.done rq.pod pick d hc.2, rfl⟩
    · cases hs
  | workerExit i r =>
    simp only [Pool.step] at hs
    split at hs
    · cases hs
    · cases hs
      exact ⟨h.updSame (same_workerExit _ _ _), rfl⟩
  | faHead i =>
    cases hs
    exact ⟨h.updSame (same_faHeadPurge _ _), rfl⟩
  | faPlanned i =>
    simp only [Pool.step] at hs
    have hf := faPlan_fits p.done (hsl i) hb
    have hsame := same_faPlanPurge p.done (p.slot i)
    cases hpl : (p.slot i).faPlan p.cfg p.done
    all_goals
      simp only [hpl] at hs hf
      split at hs
      · cases hs
        exact ⟨h.updPlan hf.1 hf.2 ⟨hsame.ips, hsame.eni, rfl, rfl⟩, rfl⟩
      · split at hs
        · cases hs
          exact ⟨h.updPlan hf.1 hf.2 ⟨hsame.ips, hsame.eni, rfl, rfl⟩, rfl⟩
        · cases hs
  | faCreated i v4n v6n res =>
    simp only [Pool.step, Option.ite_none_right_eq_some, Option.some.injEq, Bool.and_eq_true, decide_eq_true_eq, beq_iff_eq,
      Bool.or_eq_true, List.all_eq_true] at hs
    obtain ⟨⟨⟨⟨⟨⟨⟨⟨⟨⟨⟨_, hen⟩, hp4⟩, hp6⟩, hl4⟩, hl6⟩, hnd⟩, hv4⟩, hv6⟩, heo⟩, _⟩, rfl⟩ := hs
    have hemp : (p.slot i).ips = [] := (hsl i).empty (by simpa using hen)
    have hc := same_created (p.slot i) v4n v6n res
    -- the slot had no interface, hence no entry a reply could rely on
    refine ⟨h.upd (same_faHeadPurge _ _) ?_ fun _ _ a (ha : a ∈ (p.slot i).ips) => (nomatch hemp ▸ ha), rfl⟩
    cases herr : res.err with
    | some code => exact .of_nil (by rw [hc.ips, herr]; exact hemp) (Nat.zero_le _) (Nat.zero_le _)
    | none =>
      -- at most `v4n`, `v6n` addresses came; these are the slot's plans (`hp4`, `hp6`), which fit the limit
      have c4 := (hsl i).cap4
      have c6 := (hsl i).cap6
      refine SlotOK.created (n4 := v4n) (n6 := v6n) (by rw [hc.ips, herr, hemp]; rfl) ?_ rfl rfl hnd
        (fun i hi => by simpa using hv4 i hi) (fun i hi => by simpa using hv6 i hi) hl4 hl6 (by omega) (by omega)
      simpa [hc.eni, herr, Option.isSome_iff_ne_none] using heo
  | faAssigned i six res toHead =>
    simp only [Pool.step] at hs
    split at hs
    · next he =>
      simp only [Option.ite_none_right_eq_some, Option.some.injEq, Bool.and_eq_true, decide_eq_true_eq, List.all_eq_true,
        beq_iff_eq, Bool.not_eq_true', List.any_eq_false] at hs
      obtain ⟨⟨⟨hlen, hnd⟩, hall⟩, rfl⟩ := hs
      exact ⟨h.assigned (.ite (same_faHeadPurge _ _) (.refl _)) hlen hnd (fun ip hip => (hall ip hip).1)
        (fun ip hip a ha => (hall ip hip).2 a ha) (fun hn => nomatch he.symm.trans hn), rfl⟩
    · -- the interface was deleted while the call was in flight: only a failure without addresses is accepted
      simp only [Option.ite_none_right_eq_some, Option.some.injEq, Bool.and_eq_true, List.isEmpty_iff] at hs
      obtain ⟨⟨hips, _⟩, rfl⟩ := hs
      exact ⟨h.assigned (.ite (same_faHeadPurge _ _) (.refl _)) (by simp [hips]) (by simp [hips]) (by simp [hips])
        (by simp [hips]) (fun _ => hips), rfl⟩
  | release i eni pod ips =>
    simp only [Pool.step, Option.ite_none_right_eq_some, Option.some.injEq, Bool.and_eq_true, Bool.not_eq_true'] at hs
    obtain ⟨hc, rfl⟩ := hs
    exact ⟨h.release i eni pod ips hc.2, rfl⟩
  | dispose i n out =>
    simp only [Pool.step, Option.ite_none_right_eq_some, Option.some.injEq] at hs
    obtain ⟨hc, rfl⟩ := hs
    exact ⟨h.dispose i n p.done out hc, rfl⟩
  | sync i remote =>
    cases hs
    exact ⟨h.sync i remote, rfl⟩
  | fdHead i =>
    cases hs
    exact ⟨h.updSame (same_fdHead _ _), rfl⟩
  | fdDeleted i ok =>
    simp only [Pool.step] at hs
    split at hs
    · next e he =>
      simp only [Option.ite_none_right_eq_some, Option.some.injEq, Bool.and_eq_true] at hs
      obtain ⟨⟨_, hcd⟩, rfl⟩ := hs
      refine ⟨?_, rfl⟩
      cases ok with
      | false => exact h.updSame (same_fdHead _ _)
      | true =>
        -- nobody holds an address on the interface, so no reply relies on it; the plans stay: an assign call may still be
        -- in flight (`faAssigned` then accepts only its failure)
        refine h.upd (s' := (p.slot i).deleted true) (same_fdHead _ _)
          (.of_nil rfl (Nat.le_trans (Nat.le_add_left _ _) (hsl i).cap4) (Nat.le_trans (Nat.le_add_left _ _) (hsl i).cap6))
          fun x _ a ha ho => ?_
        rw [((canDispose_some he).mp hcd).1 a ha] at ho
        cases ho
    · cases hs
  | fdUnassigned i ips ok toHead =>
    simp only [Pool.step] at hs
    split at hs
    · simp only [Option.ite_none_right_eq_some, Option.some.injEq, List.all_eq_true, List.any_eq_true, Bool.and_eq_true,
        beq_iff_eq, Bool.not_eq_true'] at hs
      obtain ⟨hc, rfl⟩ := hs
      refine ⟨?_, rfl⟩
      cases ok with
      | false => exact h.updSame (.ite (same_fdHead _ _) (.refl _))
      | true =>
        refine h.upd (s' := (p.slot i).unassigned ips true) (.ite (same_fdHead _ _) (.refl _)) ((hsl i).filterIps _)
          fun x _ a ha ho => ⟨a, ?_, rfl, ho⟩
        -- an address given back is one nobody holds
        refine List.mem_filter.mpr ⟨ha, decide_eq_true fun hi => ?_⟩
        obtain ⟨b, hb, ⟨⟨e, _⟩, hu⟩, _⟩ := hc a.ip hi
        rw [(hsl i).keys.eq hb ha e, IP.inUse, ho] at hu
        cases hu
    · cases hs
  | cloud eni add del gone =>
    cases hs
    exact ⟨h, rfl⟩

theorem Pool.Inv.run {p p' : Pool} (h : p.Inv) (hb : p.cfg.batch ≤ p.cfg.cap) (evs : List Ev) (hr : p.run evs = some p') :
    p'.Inv ∧ p'.cfg = p.cfg := by
  induction evs generalizing p with
  | nil => cases hr; exact ⟨h, rfl⟩
  | cons e rest ih =>
    obtain ⟨q, hs, hr⟩ := Option.bind_eq_some_iff.mp hr
    obtain ⟨hq, hc⟩ := h.step hb e hs
    obtain ⟨h1, h2⟩ := ih hq (hc ▸ hb) hr
    exact ⟨h1, h2.trans hc⟩

end Terway.Pool