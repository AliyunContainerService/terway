import TerwayModel.Model.StoredRec
/-!
The cases of `fun_induction loop`, in the order of the branches of `loop`: 1 out of fuel, 2 `rs[j]?` out of range,
3 a stale item erased, 4 an item kept, 5 `j` at the bound.
-/
namespace Terway.Stored

theorem stale_eq_false_iff {att : Attached} {it : Item} :
    stale att it = false ↔ it.eniIp = false ∨ (it.eniID ≠ "" ∧ ∃ e ∈ att, e.1 = it.eniID) ∨
      (it.eniID = "" ∧ ∃ e ∈ att, e.2 = idMac it.id) := by
  unfold stale
  by_cases h : it.eniID = "" <;> cases it.eniIp <;> simp [h]

/-- with the bound re-read on every iteration the index is always inside the slice -/
theorem loop_recheck_some (att : Attached) : ∀ (fuel bound j : Nat) (rs : List Item),
    ∃ out, loop true att fuel bound j rs = some out := by
  intro fuel bound j rs
  fun_induction loop true att fuel bound j rs with
  | case2 _ _ j rs hj hn => exact absurd (List.getElem?_eq_none_iff.mp hn) (by simpa using hj)
  | case3 _ _ _ _ _ _ _ _ ih => exact ih
  | case4 _ _ _ _ _ _ _ _ ih => exact ih
  | _ => exact ⟨_, rfl⟩

theorem loop_spec {rc : Bool} {att : Attached} {fuel bound j : Nat} {rs out : List Item}
    (h : loop rc att fuel bound j rs = some out) :
    out.Sublist rs ∧ ∀ it ∈ rs, stale att it = false → it ∈ out := by
  fun_induction loop rc att fuel bound j rs generalizing out with
  | case1 | case5 => cases h; exact ⟨.refl _, fun _ hit _ => hit⟩
  | case2 => cases h
  | case3 _ _ j rs _ x hx hst ih =>
    refine ⟨(ih h).1.trans (List.eraseIdx_sublist rs j), fun it hit hs => (ih h).2 it ?_ hs⟩
    -- `it` is not the erased item, which is stale
    obtain ⟨hjl, rfl⟩ := List.getElem?_eq_some_iff.mp hx
    obtain ⟨k, hk, rfl⟩ := List.mem_iff_getElem.mp hit
    exact List.mem_eraseIdx_iff_getElem.mpr ⟨k, hk, fun hkj => by simp [hkj, hst] at hs, rfl⟩
  | case4 _ _ _ _ _ _ _ _ ih => exact ih h

theorem loop_sublist (rc : Bool) (att : Attached) : ∀ (fuel bound j : Nat) (rs out : List Item),
    loop rc att fuel bound j rs = some out → out.Sublist rs :=
  fun _ _ _ _ _ h => (loop_spec h).1

theorem loop_keeps (rc : Bool) (att : Attached) : ∀ (fuel bound j : Nat) (rs out : List Item),
    loop rc att fuel bound j rs = some out → ∀ it ∈ rs, stale att it = false → it ∈ out :=
  fun _ _ _ _ _ h => (loop_spec h).2

end Terway.Stored
