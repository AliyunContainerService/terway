import TerwayModel.Model.Webhook
/-!
The stages of Model/Webhook.lean in their own terms: the early exits and the source never patch, defaulting keeps the
interface names and fills `eth0`, the matched definition is the first eligible one.
-/
namespace Terway.Webhook

theorem ite_error_eq_ok {ε α : Type} {c : Prop} [Decidable c] {e : ε} {x : Except ε α} {a : α} :
    (if c then .error e else x) = .ok a ↔ ¬c ∧ x = .ok a := by
  split <;> simp [*]

theorem gate_not_patched {p : Pod} {a b c d} (h : gate p = some (.patched a b c d)) : False := by
  unfold gate at h
  repeat' split at h
  all_goals cases h

theorem source_not_patched {inp : Input} {a b c d} (h : source inp = .error (.patched a b c d)) : False := by
  unfold source at h
  repeat' split at h
  all_goals cases h

theorem fillDefaults_iface (cl : List String × List String) (nets : List Net) :
    (fillDefaults cl nets).map (·.iface) = nets.map (·.iface) := by
  rw [fillDefaults, List.map_map]
  exact List.map_congr_left fun n _ => by simp only [Function.comp]; split <;> rfl

theorem fillDefaults_eth0 {cl : List String × List String} {nets : List Net} (h1 : cl.1 ≠ []) (h2 : cl.2 ≠ []) :
    ∀ n ∈ fillDefaults cl nets, n.iface = "eth0" → n.vsw ≠ [] ∧ n.sgs ≠ [] := by
  have fill : ∀ {l d : List String}, d ≠ [] → (if l.isEmpty then d else l) ≠ [] := fun {l _} hd => by
    cases l <;> simp [hd]
  intro m hm heth
  obtain ⟨n, hn, rfl⟩ := List.mem_map.mp hm
  by_cases he : n.iface = "eth0"
  · rw [if_pos he]; exact ⟨fill h1, fill h2⟩
  · rw [if_neg he] at heth; exact absurd heth he

theorem matchOne_eq_find (fn : Bool) (pns : List PN) :
    matchOne fn pns = pns.find? fun p => decide
      (p.ready = true ∧ p.podSel ≠ some false ∧ p.nsSel ≠ some false ∧
        (p.podSel.isSome = true ∨ p.nsSel.isSome = true) ∧ (p.fixed = true → fn = true)) := by
  induction pns with
  | nil => rfl
  | cons q rest ih =>
    rw [matchOne, List.find?_cons, ← ih]
    clear ih
    -- each of the four conditions that skip `q` refutes eligibility, the fifth decides it
    iterate 4 (split; · simp_all)
    split <;> cases fn <;> simp_all

end Terway.Webhook
