/-! List facts shared by several models' proofs; in namespace `List` so that `h : (l.map f).Nodup` gives `h.eq_of_key`. -/
namespace List
universe u v

theorem Pairwise.eq_of_key {α : Type u} {β : Type v} {f : α → β} {l : List α} (h : l.Pairwise fun x y => f x ≠ f y) {a b : α}
    (ha : a ∈ l) (hb : b ∈ l) (e : f a = f b) : a = b :=
  Pairwise.forall_of_forall_of_flip (R := fun x y => f x = f y → x = y) (fun _ _ _ => rfl)
    (h.imp fun hne he => absurd he hne) (h.imp fun hne he => absurd he.symm hne) ha hb e

theorem Nodup.eq_of_key {α : Type u} {β : Type v} {f : α → β} {l : List α} (h : (l.map f).Nodup) {a b : α}
    (ha : a ∈ l) (hb : b ∈ l) (e : f a = f b) : a = b :=
  (pairwise_map.mp h).eq_of_key ha hb e

section
variable {α : Type u} {p : α → Prop} [DecidablePred p] {g : α → α} {l : List α}

/-- a list in which the entries that meet `p` are changed by `g`: the shape of every "set owner / release / mark" of the models -/
theorem mem_map_ite {a : α} : a ∈ l.map (fun b => if p b then g b else b) ↔ (∃ b ∈ l, p b ∧ g b = a) ∨ a ∈ l ∧ ¬p a := by
  rw [mem_map]
  constructor
  · rintro ⟨b, hb, rfl⟩
    by_cases c : p b
    · exact .inl ⟨b, hb, c, (if_pos c).symm⟩
    · exact .inr (if_neg c ▸ ⟨hb, c⟩)
  · rintro (⟨b, hb, c, rfl⟩ | ⟨ha, c⟩)
    · exact ⟨b, hb, if_pos c⟩
    · exact ⟨a, ha, if_neg c⟩

theorem map_ite_eq_self (h : ∀ a ∈ l, ¬p a) : (l.map fun a => if p a then g a else a) = l :=
  (map_congr_left fun a ha => if_neg (h a ha)).trans (map_id' l)

end

theorem foldl_fixed {α β : Type} {f : β → α → β} {b : β} {l : List α} (h : ∀ a ∈ l, f b a = b) : l.foldl f b = b := by
  induction l with
  | nil => rfl
  | cons a l ih => rw [foldl_cons, h a mem_cons_self]; exact ih fun x hx => h x (mem_cons_of_mem _ hx)

end List
