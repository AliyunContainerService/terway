import TerwayModel.Model.Token
/-!
Lemmas about `Model/Token.lean` alone, used by Props/C16: lookups after the LRU operations, `Add` as `putFront` cut to a
length (`add_eq_take`), `GenerateKey` / `PutBack` freed of the `Get` that precedes their `Add` (`add_touch`), the tag sort
of the hash input.
-/
namespace Terway.Token

theorem lookup_without (c : Cache) (k h : Nat) :
    lookup (without c k) h = if k = h then none else lookup c h := by
  induction c with
  | nil => simp [without, lookup]
  | cons e c ih =>
    obtain ⟨a, v⟩ := e
    by_cases ha : a = k
    · subst ha; simp only [without, lookup, if_true, ih]; split <;> rfl
    · simp only [without, lookup, ha, if_false, ih]
      split
      · subst h; rw [if_neg (Ne.symm ha)]
      · rfl

theorem lookup_putFront (c : Cache) (k h : Nat) (v : List Nat) :
    lookup (putFront c k v) h = if k = h then some v else lookup c h := by
  simp only [putFront, lookup, lookup_without]
  split <;> rfl

theorem lookup_touch (c : Cache) (k h : Nat) : lookup (touch c k) h = lookup c h := by
  unfold touch
  split
  · rename_i v hv
    rw [lookup_putFront]
    split
    · subst h; exact hv.symm
    · rfl
  · rfl

theorem without_eq_filter (c : Cache) (k : Nat) : without c k = c.filter fun e => e.1 ≠ k := by
  induction c with
  | nil => rfl
  | cons e c ih =>
    obtain ⟨a, v⟩ := e
    simp only [without, List.filter_cons, ih]
    split <;> simp [*]

theorem without_sublist (c : Cache) (k : Nat) : (without c k).Sublist c :=
  without_eq_filter c k ▸ List.filter_sublist

theorem evict_eq_take (cap : Nat) (c : Cache) : ∃ m, cap ≤ m ∧ evict cap c = c.take m := by
  unfold evict
  split
  · exact ⟨c.length - 1, Nat.le_sub_one_of_lt ‹_›, List.dropLast_eq_take⟩
  · exact ⟨cap, Nat.le_refl _, (List.take_of_length_le (Nat.le_of_not_lt ‹_›)).symm⟩

/-- `Add` puts in front and cuts; all that is used of the length `m` left is that it is not below the capacity -/
theorem add_eq_take (cap : Nat) (c : Cache) (k : Nat) (v : List Nat) :
    ∃ m, cap ≤ m ∧ add cap c k v = (putFront c k v).take m := by
  unfold add
  split
  · exact ⟨max cap _, Nat.le_max_left .., (List.take_of_length_le (Nat.le_max_right ..)).symm⟩
  · exact evict_eq_take cap _

theorem without_without (c : Cache) (k : Nat) : without (without c k) k = without c k := by
  simp only [without_eq_filter, List.filter_filter, Bool.and_self]

theorem without_putFront (c : Cache) (k : Nat) (v : List Nat) : without (putFront c k v) k = without c k := by
  simp only [putFront, without, if_true, without_without]

theorem without_touch (c : Cache) (k : Nat) : without (touch c k) k = without c k := by
  unfold touch
  split
  · exact without_putFront ..
  · rfl

theorem add_touch (cap : Nat) (c : Cache) (k : Nat) (w : List Nat) : add cap (touch c k) k w = add cap c k w := by
  unfold touch
  split
  · rename_i v hv
    simp only [add, lookup_putFront, if_true, hv]
    exact congrArg ((k, w) :: ·) (without_putFront c k v)
  · rfl

theorem generate_hit {g : Gen} {h : Nat} {s : List Nat} {id : Nat} (hl : lookup g.cache h = some (s ++ [id])) :
    generate g h = ({ g with cache := if s = [] then without g.cache h else add g.cap g.cache h s,
                             out := id :: g.out }, id) := by
  simp only [generate, hl, List.getLast?_concat, List.dropLast_concat, add_touch, without_touch]

theorem generate_cases (g : Gen) (h : Nat) :
    (∃ s id, lookup g.cache h = some (s ++ [id]) ∧
      generate g h = ({ g with cache := if s = [] then without g.cache h else add g.cap g.cache h s,
                               out := id :: g.out }, id)) ∨
    generate g h = ({ g with cache := touch g.cache h, next := g.next + 1, out := g.next :: g.out,
                             prov := (g.next, h) :: g.prov }, g.next) := by
  cases hl : lookup g.cache h with
  | none => exact .inr (by simp only [generate, hl])
  | some uuids =>
    cases hg : uuids.getLast? with
    | none => exact .inr (by simp only [generate, hl, hg])
    | some id =>
      obtain ⟨s, rfl⟩ := List.getLast?_eq_some_iff.mp hg
      exact .inl ⟨s, id, rfl, generate_hit hl⟩

theorem putBack_eq (g : Gen) (h t : Nat) :
    putBack g h t =
      { g with cache := add g.cap g.cache h ((lookup g.cache h).getD [] ++ [t]), out := g.out.erase t } := by
  cases hl : lookup g.cache h <;>
    simp only [putBack, hl, add_touch, Option.getD_some, Option.getD_none, List.nil_append]

theorem step_cap (g : Gen) (op : Op) : (step g op).cap = g.cap := by
  cases op with
  | gen h => rcases generate_cases g h with ⟨_, _, _, e⟩ | e <;> rw [step, e]
  | put h t => rfl

theorem tagLE_trans (a b c : String × String) : tagLE a b = true → tagLE b c = true → tagLE a c = true := by
  simp only [tagLE, decide_eq_true_eq]; exact String.le_trans

theorem tagLE_total (a b : String × String) : (tagLE a b || tagLE b a) = true := by
  simp only [tagLE, Bool.or_eq_true, decide_eq_true_eq]; exact String.le_total a.1 b.1

theorem sortTags_perm (t : List (String × String)) : (sortTags t).Perm t := List.mergeSort_perm t tagLE

theorem sortTags_sorted (t : List (String × String)) : (sortTags t).Pairwise fun a b => tagLE a b = true :=
  List.pairwise_mergeSort tagLE_trans tagLE_total t

end Terway.Token
