import TerwayModel.Model.Ipam
/-!
Lemmas about `Model/Ipam.lean` alone, in the form Props/C02, C03 and C08 read them off.  What a single property speaks of
(`assignOK`, the trim relation, `release`, `eniOptions`, `planPass`) that property unfolds itself.
-/
namespace Terway.Ipam

theorem eligible_iff {erdmaOn : Bool} {p : Pod} {e : Eni} {x : Entry} :
    eligible erdmaOn p e x = true ↔
      e.status = .inUse ∧ x.status = .valid ∧ x.pod = "" ∧
        if p.erdma then e.hp = true else ¬ (erdmaOn = true ∧ e.hp = true) := by
  cases h : p.erdma <;> cases erdmaOn <;> simp [eligible, h, and_assoc]

theorem entryChangeOK_iff {erdmaOn : Bool} {pods : List Pod} {pre post : Record} {e : Eni} {x y : Entry} :
    entryChangeOK erdmaOn pods pre post e x y = true ↔
      x.ip = y.ip ∧ x.status = y.status ∧ x.primary = y.primary ∧
      (x.pod = y.pod ∧ x.uid = y.uid ∨
       x.pod = "" ∧ y.pod ≠ "" ∧ ∃ p, podOf pods y.pod = some p ∧ y.uid = p.uid ∧ p.needs x.six = true ∧
         boundTo pre p.id x.six = [] ∧
         match p.reported x.six with
         | some ip => ip = x.ip
         | none => eligible erdmaOn p e x = true ∧ (x.six = true → v6Follows post p e = true)) := by
  unfold entryChangeOK
  simp only [Bool.and_eq_true, beq_iff_eq, and_assoc]
  refine and_congr_right fun _ => and_congr_right fun _ => and_congr_right fun _ => ?_
  by_cases h1 : x.pod = y.pod
  · simp +contextual [h1]
  by_cases h2 : x.pod = ""
  · have hy : y.pod ≠ "" := fun h => h1 (h2.trans h.symm)
    cases hp : podOf pods y.pod with
    | none => simp [h2, hy]
    | some p =>
      dsimp only
      cases hs : x.six <;> cases hr : p.reported _ <;> simp [h2, hy, hr, and_assoc]
  · simp [h1, h2]

theorem releaseEntry_pod (pods : List Pod) (rt : Runtime) (x : Entry) :
    (releaseEntry pods rt x).pod =
      if podOf pods x.pod = none ∧ (x.uid = "" ∨ rt x.uid = some true) then "" else x.pod := by
  unfold releaseEntry
  split
  · next hb => rw [hb, ite_self]
  split
  · next hp => rw [hp, if_neg (fun h => nomatch h.1)]
  · next hp =>
    rw [hp]
    split
    · next hu =>
      split
      · next hr => rw [if_pos ⟨rfl, .inr hr⟩]
      · next hr => rw [if_neg (fun h => h.2.elim hu (hr ·))]
    · next hu => rw [if_pos ⟨rfl, .inl (Decidable.not_not.mp hu)⟩]

theorem addStep_bound (cap batch len alloc : Nat) (t : Int) :
    (addStep cap batch len alloc t).1 = 0 ∨
      (len + (addStep cap batch len alloc t).1 ≤ cap ∧ (addStep cap batch len alloc t).1 ≤ batch) := by
  simp only [addStep]
  split
  · split
    · split
      · have hn := Int.le_trans (Int.min_le_left (min ((cap : Int) - len) (t - alloc)) batch) (Int.min_le_left ..)
        exact .inr ⟨by omega, Int.toNat_le.mpr (Int.min_le_right ..)⟩
      · exact .inl rfl
    · exact .inl rfl
  · exact .inl rfl

theorem newStep_bound (cap batch : Nat) (t : Int) : (newStep cap batch t).1 ≤ cap ∧ (newStep cap batch t).1 ≤ batch := by
  simp only [newStep]
  split
  · exact ⟨Int.toNat_le.mpr (Int.le_trans (Int.min_le_left ..) (Int.min_le_left ..)), Int.toNat_le.mpr (Int.min_le_right ..)⟩
  · exact ⟨Nat.zero_le _, Nat.zero_le _⟩

theorem clamp_le {b : Bool} {x n : Nat} : (if b = true then min x n else 0) ≤ n := by
  split
  · exact Nat.min_le_right x n
  · exact Nat.zero_le n

/-- the slot arithmetic of `getEniOptions`: of the `T` interfaces of the flavor `S` exist, `t` / `r` are the new trunk /
    RDMA slots, the `min` term the new secondary ones -/
theorem slots_le {T S t r : Nat} {x : Int} (hS : S ≤ T) (ht : t ≤ T - S) (hr : r ≤ T - S - t) :
    t + r + S + (min ((T : Int) - ↑(t + r + S)) x).toNat ≤ T := by
  omega

theorem classify_eq_some {en4 en6 erdmaOn : Bool} {p : RawPod} {r : String × Bool × Bool × Bool}
    (h : classify en4 en6 erdmaOn p = some r) : r = (p.name, en4, en6, erdmaOn && (p.erdmaInit || p.erdmaMain)) := by
  unfold classify at h
  exact (Option.some.inj (Option.ite_none_left_eq_some.mp h).2).symm

theorem mem_mergeEntries {remote current : List Entry} {x : Entry} :
    x ∈ mergeEntries remote current ↔
      x ∈ current ∧ (∃ r ∈ remote, r.ip = x.ip) ∨ x ∈ remote ∧ ¬ ∃ c ∈ current, c.ip = x.ip := by
  simp only [mergeEntries, List.mem_append, List.mem_filter, List.any_eq_true, beq_iff_eq, Bool.not_eq_true',
    ← Bool.not_eq_true]

end Terway.Ipam
