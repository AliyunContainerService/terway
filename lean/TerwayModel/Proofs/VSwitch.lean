import TerwayModel.Model.VSwitch
/-!
Lemmas about `Model/VSwitch.lean` alone, used by Props/C17: the cache after a fill, the sort of policy `most`, and that
`GetOne` changes the pool through `GetByID` only (`getOne_pool`).
-/
namespace Terway.VSwitch

theorem filterMap_map_of_inv {α β : Type} {f : β → Option α} {g : α → β} {l : List α}
    (h : ∀ s ∈ l, f (g s) = some s) : (l.map g).filterMap f = l := by
  induction l with
  | nil => rfl
  | cons s l ih =>
    rw [List.map_cons, List.filterMap_cons, h s List.mem_cons_self, ih fun x hx => h x (List.mem_cons_of_mem _ hx)]

theorem assoc_remove_ne {α : Type} (c : List (String × α)) (k id : String) (h : k ≠ id) :
    assoc (remove c k) id = assoc c id := by
  induction c with
  | nil => rfl
  | cons e c ih =>
    obtain ⟨a, v⟩ := e
    simp only [remove]
    split
    · subst a; simp only [assoc, if_neg h, ih]
    · simp only [assoc, ih]

theorem assoc_cons_remove {α : Type} (c : List (String × α)) (k id : String) (v : α) :
    assoc ((k, v) :: remove c k) id = if k = id then some v else assoc c id := by
  simp only [assoc]
  split
  · rfl
  · exact assoc_remove_ne c k id ‹_›

theorem cached_store (p : Pool) (sw : Sw) (id : String) :
    cached (store p sw) id = if sw.id = id then some sw else cached p id := by
  simp only [cached, store, assoc_cons_remove]
  by_cases e : sw.id = id
  · simp [e]
  · simp only [if_neg e]; rfl

theorem getByID_cases (p : Pool) (id : String) :
    (getByID p id).1 = p ∨
    ∃ sw, cached p id = none ∧ assoc p.cloud id = some sw ∧ (getByID p id).1 = store p sw := by
  unfold getByID
  cases cached p id with
  | some sw => exact .inl rfl
  | none =>
    cases assoc p.cloud id with
    | none => exact .inl rfl
    | some sw => exact .inr ⟨sw, rfl, rfl, rfl⟩

theorem getByID_cloud (p : Pool) (id : String) : (getByID p id).1.cloud = p.cloud := by
  rcases getByID_cases p id with e | ⟨sw, _, _, e⟩
  · rw [e]
  · rw [e]; rfl

theorem insertDesc_perm (x : Sw) (l : List Sw) : (insertDesc x l).Perm (x :: l) := by
  induction l with
  | nil => exact .refl _
  | cons y ys ih =>
    simp only [insertDesc]
    split
    · exact .refl _
    · exact (ih.cons y).trans (.swap x y ys)

theorem sortMost_perm (l : List Sw) : (sortMost l).Perm l := by
  induction l with
  | nil => exact .refl _
  | cons x xs ih => exact (insertDesc_perm x _).trans (ih.cons x)

def Desc (a b : Sw) : Prop := a.free ≥ b.free

theorem insertDesc_sorted (x : Sw) (l : List Sw) (h : l.Pairwise Desc) : (insertDesc x l).Pairwise Desc := by
  induction l with
  | nil => simp [insertDesc]
  | cons y ys ih =>
    have hy := List.pairwise_cons.mp h
    simp only [insertDesc]
    split
    · rename_i hge
      refine List.pairwise_cons.mpr ⟨fun z hz => ?_, h⟩
      rcases List.mem_cons.mp hz with rfl | hz
      · exact hge
      · exact Int.le_trans (hy.1 z hz) hge
    · rename_i hlt
      refine List.pairwise_cons.mpr ⟨fun z hz => ?_, ih hy.2⟩
      rcases List.mem_cons.mp ((insertDesc_perm x ys).subset hz) with rfl | hz
      · exact Int.le_of_lt (Int.not_le.mp hlt)
      · exact hy.1 z hz

theorem sortMost_sorted (l : List Sw) : (sortMost l).Pairwise Desc := by
  induction l with
  | nil => exact .nil
  | cons x xs ih => exact insertDesc_sorted x _ ih

section
variable (P : Pool → Prop) (hP : ∀ p id, P p → P (getByID p id).1)
include hP

theorem getByID_pool {p p' : Pool} {id : String} {r : Option Sw} (hg : getByID p id = (p', r)) (h : P p) : P p' := by
  have := hP p id h
  rwa [hg] at this

theorem scan_pool (zone : String) (ign : Bool) (p : Pool) (ids : List String) (fb : List Sw) (h : P p) :
    P (scan zone ign p ids fb).1 := by
  fun_induction scan zone ign p ids fb with
  | case1 => exact h
  | case2 p id rest fb p' hg ih => exact ih (getByID_pool P hP hg h)
  | case3 p id rest fb p' sw hg hz ih => exact ih (getByID_pool P hP hg h)
  | case4 p id rest fb p' sw hg hz hf ih => exact ih (getByID_pool P hP hg h)
  | case5 p id rest fb p' sw hg hz hf => exact getByID_pool P hP hg h

theorem collect_pool (p : Pool) (ids : List String) (h : P p) : P (collect p ids).1 := by
  fun_induction collect p ids with
  | case1 => exact h
  | case2 p id rest p' hg ih => exact ih (getByID_pool P hP hg h)
  | case3 p id rest p' sw hg p'' l hc ih => rw [hc] at ih; exact ih (getByID_pool P hP hg h)

theorem getOne_pool (p : Pool) (policy : Policy) (zone : String) (ign : Bool) (ids rho : List String) (h : P p) :
    P (getOne p policy zone ign ids rho).pool := by
  cases policy with
  | ordered => exact scan_pool P hP zone ign p ids [] h
  | random => exact scan_pool P hP zone ign p rho [] h
  | most => exact scan_pool P hP zone ign _ _ [] (collect_pool P hP p ids h)

end

end Terway.VSwitch
