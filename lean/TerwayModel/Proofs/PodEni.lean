import TerwayModel.Model.PodEni
import TerwayModel.Proofs.List
/-!
Lemmas of the PodENI model's helper functions (with the `grind` attributes the later files rely on), the case
analysis `step_cases`, and the first group of the invariant, `Inv1`.
-/
namespace Terway.PE

@[simp] theorem bump_none (s : St) (f : Rec → Rec) (h : s.rcd = none) : s.bump f = s := by
  simp [St.bump, h]

theorem bump_some (s : St) (f : Rec → Rec) (c : Rec) (h : s.rcd = some c) :
    s.bump f = { s with rcd := some { f c with ver := s.nextVer }, nextVer := s.nextVer + 1 } := by
  simp [St.bump, h]

theorem podMatches_live {p : Option Pod} {u : Nat} {n : Bool} (h : podMatches p (.live u n) = true) :
    ∃ q, p = some q ∧ q.uid = u ∧ q.exited = false ∧ q.needs = n := by
  cases p with
  | none => simp [podMatches] at h
  | some q => exact ⟨q, rfl, by simpa [podMatches, and_assoc] using h⟩

theorem podMatches_absent {p : Option Pod} (h : podMatches p .absent = true) : p = none := by
  cases p <;> simp_all [podMatches]

theorem podMatches_exited {p : Option Pod} (h : podMatches p .exited = true) : ∃ q, p = some q ∧ q.exited = true := by
  cases p <;> simp_all [podMatches]

theorem podMatches_term {p : Option Pod} (h : podMatches p .term = true) : ∃ q, p = some q ∧ q.exited = false := by
  cases p <;> simp_all [podMatches]

theorem seenMatches_absent {p : Option Pod} (h : seenMatches p .absent = true) : p = none := by
  cases p <;> simp_all [seenMatches]

theorem seenMatches_present {p : Option Pod} {u : Nat} {ex n : Bool} (h : seenMatches p (.present u ex n) = true) :
    ∃ q, p = some q ∧ q.uid = u ∧ q.exited = ex ∧ q.needs = n := by
  cases p with
  | none => simp [seenMatches] at h
  | some q => exact ⟨q, rfl, by simpa [seenMatches, and_assoc] using h⟩

@[simp] theorem markDel_uid (r : Rec) (v : Nat) : (markDel r v).uid = r.uid := by unfold markDel; split <;> rfl
@[simp] theorem markDel_phase (r : Rec) (v : Nat) : (markDel r v).phase = r.phase := by unfold markDel; split <;> rfl
@[simp] theorem markDel_allocs (r : Rec) (v : Nat) : (markDel r v).allocs = r.allocs := by unfold markDel; split <;> rfl
@[simp] theorem markDel_del (r : Rec) (v : Nat) : (markDel r v).del = true := by unfold markDel; split <;> simp_all
theorem markDel_ver (r : Rec) (v : Nat) : (markDel r v).ver = if r.del then r.ver else v := by
  unfold markDel; split <;> simp_all
theorem markDel_of_del (r : Rec) (v : Nat) (h : r.del = true) : markDel r v = r := by simp [markDel, h]
@[simp] theorem markDel_lastSeen (r : Rec) (v : Nat) : (markDel r v).lastSeen = r.lastSeen := by unfold markDel; split <;> rfl
@[simp] theorem markDel_fixed (r : Rec) (v : Nat) : (markDel r v).fixed = r.fixed := by simp [Rec.fixed]

theorem deleteRec_some (s : St) (r : Rec) (h : s.rcd = some r) :
    deleteRec s = { s with rcd := some (markDel r s.nextVer), nextVer := if r.del then s.nextVer else s.nextVer + 1 } := by
  simp [deleteRec, h]

theorem pStatusOK_true (p : PPc) (ver : Nat) (ph : Phase) :
    pStatusOK p ver ph = true ↔ (p = .upd ver ph ∨ ∃ u, p = .reconf u ver u ∧ ph = .binding) := by
  constructor
  · intro h
    unfold pStatusOK at h
    split at h
    · simp only [Bool.and_eq_true, beq_iff_eq] at h; exact .inl (by rw [h.1, h.2])
    · simp only [Bool.and_eq_true, beq_iff_eq] at h
      obtain ⟨⟨h1, h2⟩, h3⟩ := h
      exact .inr ⟨_, by rw [h1, h3], h2⟩
    · simp at h
  · rintro (rfl | ⟨u, rfl, rfl⟩) <;> simp [pStatusOK]


theorem mem_setAtt {c : List Eni} {id : Nat} {a : Option Nat} {en : Eni} (h : en ∈ setAtt c id a) :
    ∃ e0 ∈ c, en.id = e0.id ∧ en.ctime = e0.ctime ∧ en.ours = e0.ours ∧ en.member = e0.member ∧ en.ip = e0.ip := by
  simp only [setAtt, List.mem_map] at h
  obtain ⟨e0, h0, rfl⟩ := h
  refine ⟨e0, h0, ?_⟩
  split <;> simp

theorem setAtt_ids (c : List Eni) (id : Nat) (a : Option Nat) : (setAtt c id a).map (·.id) = c.map (·.id) := by
  simp only [setAtt, List.map_map]
  apply List.map_congr_left
  intro e _
  simp only [Function.comp]
  split <;> rfl

theorem mem_remove {c : List Eni} {id : Nat} {en : Eni} (h : en ∈ remove c id) : en ∈ c ∧ en.id ≠ id := by
  simpa [remove] using h

theorem remove_ids_sublist (c : List Eni) (id : Nat) : ((remove c id).map (·.id)).Sublist (c.map (·.id)) := by
  simp only [remove]
  exact (List.filter_sublist).map _

theorem stamp_enis (made : List Alloc) (allocs : List (Nat × Strat)) : (stamp made allocs).map (·.eni) = made.map (·.eni) := by
  simp [stamp, List.map_map, Function.comp_def]

theorem mem_stamp {made : List Alloc} {allocs : List (Nat × Strat)} {a : Alloc} (h : a ∈ stamp made allocs) :
    ∃ a0 ∈ made, a.eni = a0.eni ∧ a.ip = a0.ip := by
  simp only [stamp, List.mem_map] at h
  obtain ⟨a0, h0, rfl⟩ := h
  exact ⟨a0, h0, rfl, rfl⟩

theorem mem_stamp_of {made : List Alloc} {allocs : List (Nat × Strat)} {a0 : Alloc} (h : a0 ∈ made) :
    ∃ a ∈ stamp made allocs, a.eni = a0.eni := by
  refine ⟨{ a0 with strat := (allocs.lookup a0.eni).getD .elastic }, ?_, rfl⟩
  simp only [stamp, List.mem_map]
  exact ⟨a0, h, rfl⟩

theorem fixed_stamp (made : List Alloc) (allocs : List (Nat × Strat)) (a : Alloc) (h : a ∈ stamp made allocs) :
    ∃ a0 ∈ made, a.eni = a0.eni := by
  obtain ⟨a0, h0, h1, _⟩ := mem_stamp h
  exact ⟨a0, h0, h1⟩

theorem mem_enis {r : Rec} {id : Nat} : id ∈ r.enis ↔ ∃ a ∈ r.allocs, a.eni = id := by
  simp [Rec.enis]

theorem absent_iff {c : List Eni} {id : Nat} : absent c id = true ↔ ∀ en ∈ c, en.id ≠ id := by
  simp [absent, find, List.find?_eq_none]

theorem leakCand_iff (now : Nat) (e : Eni) : leakCand now e = true ↔ e.ours = true ∧ e.ctime + grace ≤ now := by
  simp [leakCand]

theorem grace_pos : 0 < grace := by decide

theorem mem_erase_of {l : List Nat} {a b : Nat} (h : a ∈ l.erase b) : a ∈ l := List.mem_of_mem_erase h

theorem mem_erase_ne {l : List Nat} {a b : Nat} (h : a ∈ l) (hab : a ≠ b) : a ∈ l.erase b :=
  (List.mem_erase_of_ne hab).mpr h

attribute [grind =] markDel_uid markDel_phase markDel_allocs markDel_del markDel_ver markDel_of_del markDel_lastSeen
  markDel_fixed pStatusOK_true stamp_enis mem_enis absent_iff leakCand_iff
attribute [grind →] mem_setAtt mem_remove mem_stamp mem_erase_of
attribute [grind .] podMatches_live podMatches_absent podMatches_exited podMatches_term seenMatches_absent
  seenMatches_present grace_pos mem_erase_ne
attribute [grind] pAfterDel pAfterCre

/-- a pod instance `u` that is not running: no pod, another instance, or finished -/
def NotRunning (s : St) (u : Nat) : Prop := ∀ q, s.pod = some q → q.uid = u → q.exited = true

/-- a snapshot an actor holds: its version was issued, and if the record still has that version it is that snapshot -/
def SnapOK (s : St) (r : Rec) : Prop :=
  r.ver < s.nextVer ∧ ∀ c, s.rcd = some c → c.ver = r.ver → c = r

/-- counters, versions, snapshots -/
structure Inv1 (s : St) : Prop where
  podLt : ∀ q, s.pod = some q → q.uid + 1 = s.nextUid
  recUid : ∀ c, s.rcd = some c → c.uid < s.nextUid
  recVer : ∀ c, s.rcd = some c → c.ver < s.nextVer
  pVerU : ∀ v ph, s.p = .upd v ph → v < s.nextVer
  pVerR : ∀ u v ru, s.p = .reconf u v ru → v < s.nextVer
  pUidC : ∀ u, s.p = .cre u → u < s.nextUid ∧ ∀ q, s.pod = some q → q.uid = u → q.needs = true
  pUidR : ∀ u v ru, s.p = .reconf u v ru → u < s.nextUid ∧ ∀ q, s.pod = some q → q.uid = u → q.needs = true
  pUidM : ∀ u m f, s.p = .creating u m f → u < s.nextUid ∧ ∀ q, s.pod = some q → q.uid = u → q.needs = true
  eSnapD : ∀ r tear, s.e = .detach r tear → SnapOK s r
  eSnapA : ∀ r fn i f, s.e = .attach r fn i f → SnapOK s r
  gSnapL : ∀ r, s.g = .listed r → SnapOK s r
  gSnapS : ∀ r p ne, s.g = .seen r p ne → SnapOK s r

theorem Inv1.init : Inv1 {} := by
  constructor <;> simp

/-- a snapshot stays valid when the record is untouched and versions only grow -/
theorem SnapOK.mono {s t : St} {r : Rec} (h : SnapOK s r) (hr : t.rcd = s.rcd) (hv : s.nextVer ≤ t.nextVer) : SnapOK t r :=
  ⟨Nat.lt_of_lt_of_le h.1 hv, fun c hc => h.2 c (hr ▸ hc)⟩

/-- … and when the record is rewritten under a fresh version -/
theorem SnapOK.fresh {s t : St} {r : Rec} (h : SnapOK s r) (hv : s.nextVer < t.nextVer)
    (hr : ∀ c, t.rcd = some c → c.ver = s.nextVer) : SnapOK t r :=
  ⟨Nat.lt_trans h.1 hv, fun c hc he => by have := hr c hc; have := h.1; omega⟩

theorem stepD_eq {s t : St} {ev : Ev} (hs : PE.stepD s ev = some t) : t = s := by
  unfold PE.stepD at hs
  split at hs
  · split at hs
    · exact (Option.some.inj hs).symm
    · cases hs
  · cases hs

theorem step_actor {s t : St} {ev : Ev} (hs : step s ev = some t) :
    stepEnv s ev = some t ∨ stepP s ev = some t ∨ stepE s ev = some t ∨ stepG s ev = some t ∨
      stepL s ev = some t ∨ stepD s ev = some t := by
  cases ev <;> simp only [step] at hs <;> simp only [hs, true_or, or_true]

/-- `step_cases hs`, for `hs : step s ev = some t`: one goal for every branch of the actors' step functions that
accepts an event, with `ev` replaced by that event, `t` by the state the branch produces and the record written out.
The preservation lemmas close them by `assumption` where the branch leaves alone what the fact reads, by
`simp only [F, reduceCtorEq, ..]` where it sets a pc at which the fact `F` asserts nothing, else by `grind` over the
facts named in the lemma's first line. -/
macro "step_cases " hs:ident : tactic => `(tactic|
  (obtain h | h | h | h | h | h := step_actor $hs <;> clear $hs <;> revert h <;>
   (first
    | fun_cases stepEnv | fun_cases stepP | fun_cases stepE
    | fun_cases stepG | fun_cases stepL | fun_cases stepD) <;>
   intro h <;> (first | cases h | skip) <;>
   try simp only [bump_some _ _ _ (by assumption : _ = some _), deleteRec_some _ _ (by assumption : _ = some _), bindRec]))

theorem Inv1.step {s t : St} {ev : Ev} (h : Inv1 s) (hs : PE.step s ev = some t) : Inv1 t := by
  cases h
  step_cases hs <;> constructor <;>
    first
    | assumption
    | (simp only [reduceCtorEq, false_imp_iff, implies_true]; done)
    | grind [SnapOK]

theorem run_preserves {P : St → Prop} (hP : ∀ {s t ev}, P s → step s ev = some t → P t) {s t : St} {evs : List Ev}
    (h : P s) (hs : run s evs = some t) : P t := by
  induction evs generalizing s with
  | nil => exact Option.some.inj hs ▸ h
  | cons ev rest ih =>
    simp only [run] at hs
    split at hs
    · exact ih (hP h ‹_›) hs
    · cases hs

theorem Inv1.run {s t : St} {evs : List Ev} (h : Inv1 s) (hs : PE.run s evs = some t) : Inv1 t :=
  run_preserves Inv1.step h hs

end Terway.PE
