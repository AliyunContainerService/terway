import TerwayModel.Model.Daemon
import TerwayModel.Proofs.List
/-!
The invariant `Inv` of the daemon model and its preservation by every good event (`Inv.apply_pres`); behind
Props/C04, C05, C09.
-/
namespace Terway.Daemon

theorem dbGet_dbDel (db : List (String × Rec)) (p q : String) :
    dbGet (dbDel db p) q = if q = p then none else dbGet db q := by
  induction db with
  | nil => simp [dbDel, dbGet]
  | cons hd t ih =>
    unfold dbDel
    split <;> simp only [dbGet, ih] <;> grind

theorem dbGet_dbPut (db : List (String × Rec)) (p q : String) (r : Rec) :
    dbGet (dbPut db p r) q = if q = p then some r else dbGet db q := by
  simp only [dbPut, dbGet, dbGet_dbDel, eq_comm (a := p)]
  split <;> rfl

theorem dbGet_eq_none_iff {db : List (String × Rec)} {q : String} : dbGet db q = none ↔ q ∉ db.map (·.1) := by
  induction db with
  | nil => simp [dbGet]
  | cons hd t ih => simp only [dbGet]; split <;> simp_all [eq_comm]

theorem mem_of_dbGet {db : List (String × Rec)} {p : String} {r : Rec} (h : dbGet db p = some r) : (p, r) ∈ db := by
  induction db with
  | nil => cases h
  | cons hd t ih =>
    simp only [dbGet] at h
    split at h
    · next hk => cases h; simp [← hk]
    · exact List.mem_cons_of_mem _ (ih h)

theorem dbGet_of_mem {db : List (String × Rec)} (hk : (db.map (·.1)).Nodup) {p : String} {r : Rec} (h : (p, r) ∈ db) :
    dbGet db p = some r := by
  cases h' : dbGet db p with
  | none => exact absurd (List.mem_map_of_mem (f := (·.1)) h) (dbGet_eq_none_iff.mp h')
  | some r' => cases hk.eq_of_key (mem_of_dbGet h') h rfl; rfl

theorem dbDel_keys_sublist (db : List (String × Rec)) (p : String) : ((dbDel db p).map (·.1)).Sublist (db.map (·.1)) := by
  induction db with
  | nil => exact .slnil
  | cons hd t ih => unfold dbDel; split <;> simp [ih, List.Sublist.cons]

theorem dbPut_nodup {db : List (String × Rec)} {p : String} {r : Rec} (h : (db.map (·.1)).Nodup) :
    ((dbPut db p r).map (·.1)).Nodup :=
  List.nodup_cons.mpr
    ⟨dbGet_eq_none_iff.mp ((dbGet_dbDel db p p).trans (if_pos rfl)), (dbDel_keys_sublist db p).nodup h⟩

def key (e : Ent) : String × Nat := (e.eni, e.ip)

def KeysNodup (pool : List Ent) : Prop := (pool.map key).Nodup

theorem KeysNodup.eq {pool : List Ent} (h : KeysNodup pool) {a b : Ent} (ha : a ∈ pool) (hb : b ∈ pool)
    (h1 : a.eni = b.eni) (h2 : a.ip = b.ip) : a = b :=
  List.Nodup.eq_of_key h ha hb (by simp [key, h1, h2])

theorem KeysNodup.map_owner {pool : List Ent} (h : KeysNodup pool) {c : Ent → Prop} [DecidablePred c]
    {o : Option String} : KeysNodup (pool.map fun e => if c e then { e with owner := o } else e) := by
  unfold KeysNodup
  rwa [List.map_map, List.map_congr_left fun e _ => by simp only [Function.comp, key]; split <;> rfl]

theorem mem_claim {pool : List Ent} {p eni : String} {ips : List Nat} {e' : Ent} :
    e' ∈ claim pool p eni ips ↔
      (∃ e ∈ pool, (e.eni = eni ∧ e.ip ∈ ips) ∧ { e with owner := some p } = e') ∨ e' ∈ pool ∧ ¬(e'.eni = eni ∧ e'.ip ∈ ips) :=
  List.mem_map_ite

theorem mem_release {pool : List Ent} {p eni : String} {ips : List Nat} {e' : Ent} :
    e' ∈ release pool p eni ips ↔
      (∃ e ∈ pool, (e.eni = eni ∧ e.ip ∈ ips ∧ e.owner = some p) ∧ { e with owner := none } = e') ∨
        e' ∈ pool ∧ ¬(e'.eni = eni ∧ e'.ip ∈ ips ∧ e'.owner = some p) :=
  List.mem_map_ite

theorem release_eq_self {pool : List Ent} {p eni : String} {ips : List Nat}
    (h : ∀ e ∈ pool, ¬ (e.eni = eni ∧ e.ip ∈ ips ∧ e.owner = some p)) : release pool p eni ips = pool :=
  List.map_ite_eq_self h

theorem owner_ne_of_mem_release {pool : List Ent} {p eni : String} {ips : List Nat} {e' : Ent}
    (h : e' ∈ release pool p eni ips) (h1 : e'.eni = eni) (h2 : e'.ip ∈ ips) : e'.owner ≠ some p := by
  rcases mem_release.mp h with ⟨e, _, _, rfl⟩ | ⟨_, hn⟩
  · nofun
  · exact fun ho => hn ⟨h1, h2, ho⟩

theorem release_owner {pool : List Ent} {p eni : String} {ips : List Nat} {e' : Ent} {q : String}
    (h : e' ∈ release pool p eni ips) (ho : e'.owner = some q) :
    ∃ e ∈ pool, e.eni = e'.eni ∧ e.ip = e'.ip ∧ e.owner = some q := by
  rcases mem_release.mp h with ⟨e, _, _, rfl⟩ | ⟨he, _⟩
  · cases ho
  · exact ⟨e', he, rfl, rfl, ho⟩

theorem release_of_mem {pool : List Ent} {p eni : String} {ips : List Nat} {e : Ent} (h : e ∈ pool) :
    (if e.eni = eni ∧ e.ip ∈ ips ∧ e.owner = some p then { e with owner := none } else e) ∈ release pool p eni ips :=
  List.mem_map.mpr ⟨e, h, rfl⟩

theorem claim_of_mem {pool : List Ent} {p eni : String} {ips : List Nat} {e : Ent} (h : e ∈ pool) :
    (if e.eni = eni ∧ e.ip ∈ ips then { e with owner := some p } else e) ∈ claim pool p eni ips :=
  List.mem_map.mpr ⟨e, h, rfl⟩

def OwnIn (pool : List Ent) (p eni : String) (six : Bool) : Prop :=
  ∃ x ∈ pool, x.eni = eni ∧ x.v6 = six ∧ x.owner = some p

structure PeekSpec (pool : List Ent) (p eni : String) (e : Ent) : Prop where
  mem : e ∈ pool
  onEni : e.eni = eni
  own : OwnIn pool p eni e.v6 → e.owner = some p
  free : ¬ OwnIn pool p eni e.v6 → e.owner = none

theorem peekOK_spec {pool : List Ent} {p eni : String} {six : Bool} {e : Ent}
    (h : peekOK pool p eni six e = true) : e.v6 = six ∧ PeekSpec pool p eni e := by
  have hany : (pool.any fun x => x.eni == eni && x.v6 == six && x.owner == some p) = true ↔ OwnIn pool p eni six := by
    simp [OwnIn, and_assoc]
  simp only [peekOK, Bool.and_eq_true, decide_eq_true_eq, beq_iff_eq] at h
  obtain ⟨⟨⟨h1, h2⟩, rfl⟩, h4⟩ := h
  refine ⟨rfl, h1, h2, fun o => ?_, fun o => ?_⟩
  · rw [if_pos (hany.mpr o)] at h4; simpa using h4
  · rw [if_neg (mt hany.mp o)] at h4
    simp only [Bool.and_eq_true, beq_iff_eq] at h4
    exact h4.1

theorem PeekSpec.owner_eq {pool : List Ent} {p eni : String} {e : Ent}
    (h : PeekSpec pool p eni e) {q : String} (ho : e.owner = some q) : q = p := by
  by_cases c : OwnIn pool p eni e.v6
  · exact Option.some.inj (ho.symm.trans (h.own c))
  · cases ho.symm.trans (h.free c)

/-- a record's address list: one IPv4 address, plus one IPv6 address when dual stack -/
def Shape (dual : Bool) (ips : List Nat) : Prop :=
  (dual = false ∧ ∃ a, ips = [a] ∧ a < v6Base) ∨ (dual = true ∧ ∃ a b, ips = [a, b] ∧ a < v6Base ∧ v6Base ≤ b)

structure PickSpec (s : Svc) (p : String) (pick : List Ent) (eni : String) : Prop where
  each : ∀ e ∈ pick, PeekSpec s.pool p eni e
  shape : Shape s.dual (pick.map (·.ip))
  pin : ∀ r, dbGet s.db p = some r → r.eni = eni

/-- the interface is the one `addBody` records: the first picked entry's -/
theorem pickOK_spec {s : Svc} {p : String} {pick : List Ent} (h : pickOK s p pick = true) :
    PickSpec s p pick ((pick.head?.map (·.eni)).getD "") := by
  have pin : ∀ eni, pickOK.pinOK s p eni = true → ∀ r, dbGet s.db p = some r → r.eni = eni := by
    intro eni hp r hr
    simpa [pickOK.pinOK, hr] using hp
  unfold pickOK at h
  split at h
  · next e4 =>
    simp only [Bool.and_eq_true, Bool.not_eq_true'] at h
    obtain ⟨⟨hd, h4⟩, hp⟩ := h
    obtain ⟨f4, s4⟩ := peekOK_spec h4
    exact ⟨List.forall_mem_singleton.mpr s4, .inl ⟨hd, e4.ip, rfl, by simpa [Ent.v6] using f4⟩, pin _ hp⟩
  · next e4 e6 =>
    simp only [Bool.and_eq_true] at h
    obtain ⟨⟨⟨hd, h4⟩, h6⟩, hp⟩ := h
    obtain ⟨f4, s4⟩ := peekOK_spec h4
    obtain ⟨f6, s6⟩ := peekOK_spec h6
    exact ⟨List.forall_mem_cons.mpr ⟨s4, List.forall_mem_singleton.mpr s6⟩,
      .inr ⟨hd, e4.ip, e6.ip, rfl, by simpa [Ent.v6] using f4, by simpa [Ent.v6] using f6⟩, pin _ hp⟩
  · cases h

theorem Shape.fam_unique {dual : Bool} {ips : List Nat} (h : Shape dual ips) {a b : Nat}
    (ha : a ∈ ips) (hb : b ∈ ips) (hf : decide (v6Base ≤ a) = decide (v6Base ≤ b)) : a = b := by
  rcases h with ⟨_, x, rfl, _⟩ | ⟨_, x, y, rfl, hx, hy⟩
  all_goals simp at ha hb hf; omega

theorem Shape.exists_same_fam {dual : Bool} {ips l : List Nat} (h : Shape dual ips) {a : Nat} (ha : a ∈ ips)
    (hl : Shape dual l) : ∃ b ∈ l, decide (v6Base ≤ b) = decide (v6Base ≤ a) := by
  rcases h with ⟨rfl, x, rfl, hx⟩ | ⟨rfl, x, y, rfl, hx, hy⟩ <;>
    rcases hl with ⟨hd, x', rfl, hx'⟩ | ⟨hd, x', y', rfl, hx', hy'⟩ <;> cases hd
  all_goals simp at ha ⊢; omega

theorem Shape.eq_of_subset {d : Bool} {l1 l2 : List Nat} (h1 : Shape d l1) (h2 : Shape d l2)
    (hs : ∀ a ∈ l1, a ∈ l2) : l1 = l2 := by
  rcases h1 with ⟨rfl, a, rfl, ha⟩ | ⟨rfl, a, b, rfl, ha, hb⟩ <;>
    rcases h2 with ⟨hd, x, rfl, hx⟩ | ⟨hd, x, y, rfl, hx, hy⟩ <;> cases hd
  all_goals simp at hs ⊢; omega

def NoShare (db : List (String × Rec)) : Prop :=
  ∀ p q r1 r2, dbGet db p = some r1 → dbGet db q = some r2 → p ≠ q → r1.eni = r2.eni →
    ∀ ip, ip ∈ r1.ips → ip ∉ r2.ips

/-- `pending`, `crd` and `Ent.valid` are not mentioned: they decide which step is taken, never whether it keeps this -/
structure Inv (s : Svc) : Prop where
  keys : KeysNodup s.pool
  dbKeys : (s.db.map (·.1)).Nodup
  shape : ∀ p r, dbGet s.db p = some r → Shape s.dual r.ips
  bound : ∀ p r, dbGet s.db p = some r → ∀ e ∈ s.pool, e.eni = r.eni → e.ip ∈ r.ips → e.owner = some p
  recorded : ∀ e ∈ s.pool, ∀ p, e.owner = some p → ∃ r, dbGet s.db p = some r ∧ e.eni = r.eni ∧ e.ip ∈ r.ips
  noShare : NoShare s.db

theorem Inv.of_pending {s : Svc} (h : Inv s) {l : List String} : Inv { s with pending := l } :=
  ⟨h.keys, h.dbKeys, h.shape, h.bound, h.recorded, h.noShare⟩

/-- the pool offers a pod its own entry again -/
theorem PickSpec.recorded_of_ownIn {s : Svc} {p : String} {pick : List Ent} {eni : String} (hp : PickSpec s p pick eni)
    (h : Inv s) {r : Rec} (hr : dbGet s.db p = some r) {pe : Ent} (hpe : pe ∈ pick)
    (ho : OwnIn s.pool p eni pe.v6) : pe.ip ∈ r.ips := by
  have sp := hp.each pe hpe
  obtain ⟨r', hr', _, f2⟩ := h.recorded pe sp.mem p (sp.own ho)
  cases hr.symm.trans hr'
  exact f2

/-- the update in `addBody` (`addBody_cases` closes by `rfl`) -/
def served (s : Svc) (p cid : String) (stick : Bool) (pick : List Ent) (eni : String) : Svc :=
  { s with pool := claim s.pool p eni (pick.map (·.ip)),
           db := dbPut s.db p { cid := cid, eni := eni, ips := pick.map (·.ip), stick := stick } }

theorem Inv.add_pres {s : Svc} (h : Inv s) {p cid : String} {stick : Bool} {pick : List Ent} {eni : String}
    (hp : PickSpec s p pick eni) : Inv (served s p cid stick pick eni) := by
  -- the entry at a claimed key is the picked one, which is free or the pod's own
  have claimed : ∀ e ∈ s.pool, e.eni = eni ∧ e.ip ∈ pick.map (·.ip) → ∀ q, e.owner = some q → q = p := by
    intro e he ⟨h1, h2⟩ q ho
    obtain ⟨pe, hpe, hip⟩ := List.mem_map.mp h2
    have sp := hp.each pe hpe
    cases h.keys.eq sp.mem he (sp.onEni.trans h1.symm) hip
    exact sp.owner_eq ho
  -- what the pod held is claimed again: the pick's entry of the same family is the pod's own
  have held : ∀ e ∈ s.pool, e.owner = some p → e.eni = eni ∧ e.ip ∈ pick.map (·.ip) := by
    intro e he ho
    obtain ⟨r, hr, e1, e2⟩ := h.recorded e he p ho
    have hsh := h.shape p r hr
    obtain ⟨b, hb, hfam⟩ := hsh.exists_same_fam e2 hp.shape
    obtain ⟨pe, hpe, rfl⟩ := List.mem_map.mp hb
    have f2 := hp.recorded_of_ownIn h hr hpe ⟨e, he, e1.trans (hp.pin r hr), hfam.symm, ho⟩
    exact ⟨e1.trans (hp.pin r hr), hsh.fam_unique f2 e2 hfam ▸ hb⟩
  -- no other pod's record names a claimed address: its entry would be bound to that pod
  have others : ∀ q r, q ≠ p → dbGet s.db q = some r → r.eni = eni → ∀ ip ∈ pick.map (·.ip), ip ∉ r.ips := by
    intro q r hq hr hre ip hip hir
    obtain ⟨pe, hpe, rfl⟩ := List.mem_map.mp hip
    have sp := hp.each pe hpe
    exact hq (sp.owner_eq (h.bound q r hr pe sp.mem (sp.onEni.trans hre.symm) hir))
  refine ⟨h.keys.map_owner, dbPut_nodup h.dbKeys, ?_, ?_, ?_, ?_⟩
  · intro q r hq
    simp only [served, dbGet_dbPut] at hq
    split at hq
    · cases hq; exact hp.shape
    · exact h.shape q r hq
  · intro q r hq e' he' h1 h2
    simp only [served, dbGet_dbPut] at hq
    split at hq
    · next hqp =>
      cases hq
      rcases mem_claim.mp he' with ⟨e, _, _, rfl⟩ | ⟨_, c⟩
      · rw [hqp]
      · exact absurd ⟨h1, h2⟩ c
    · next hqp =>
      rcases mem_claim.mp he' with ⟨e, he, c, rfl⟩ | ⟨he, _⟩
      · exact absurd (claimed e he c q (h.bound q r hq e he h1 h2)) hqp
      · exact h.bound q r hq e' he h1 h2
  · intro e' he' q ho
    simp only [served, dbGet_dbPut]
    rcases mem_claim.mp he' with ⟨e, _, c, rfl⟩ | ⟨he, c⟩
    · cases ho; exact ⟨_, if_pos rfl, c.1, c.2⟩
    · rw [if_neg fun (e : q = p) => c (held _ he (e ▸ ho))]; exact h.recorded e' he q ho
  · intro q1 q2 r1 r2 h1 h2 hne he ip hi hj
    simp only [served, dbGet_dbPut] at h1 h2
    split at h1 <;> split at h2
    · exact hne (by subst_vars; rfl)
    · next _ hq2 => cases h1; exact others q2 r2 hq2 h2 he.symm ip hi hj
    · next hq1 _ => cases h2; exact others q1 r1 hq1 h1 he ip hj hi
    · exact h.noShare q1 q2 r1 r2 h1 h2 hne he ip hi hj

/-- DEL and GC: records may go, as long as the pool forgets the bindings of exactly the pods whose record is gone -/
theorem Inv.of_drop {s t : Svc} (h : Inv s) (hdual : t.dual = s.dual) (hkeys : (t.db.map (·.1)).Nodup)
    {c : Ent → Prop} [DecidablePred c]
    (hpool : t.pool = s.pool.map fun e => if c e then { e with owner := none } else e)
    (hdb : ∀ p r, dbGet t.db p = some r → ∃ r', dbGet s.db p = some r' ∧ r'.eni = r.eni ∧ r'.ips = r.ips)
    (hc : ∀ e ∈ s.pool, ∀ q, e.owner = some q → (c e ↔ dbGet t.db q = none)) : Inv t := by
  refine ⟨hpool ▸ h.keys.map_owner, hkeys, ?_, ?_, ?_, ?_⟩
  · intro p r hr
    obtain ⟨r', h1, _, h3⟩ := hdb p r hr
    rw [hdual, ← h3]; exact h.shape p r' h1
  · intro p r hr e' he' h1 h2
    obtain ⟨r', g1, g2, g3⟩ := hdb p r hr
    rcases List.mem_map_ite.mp (hpool ▸ he') with ⟨e, he, hce, rfl⟩ | ⟨he, _⟩
    · -- a cleared entry named by `r` was `p`'s, and `p` kept a record
      have ho := h.bound p r' g1 e he (g2 ▸ h1) (g3 ▸ h2)
      cases hr.symm.trans ((hc e he p ho).mp hce)
    · exact h.bound p r' g1 e' he (g2 ▸ h1) (g3 ▸ h2)
  · intro e' he' p ho
    rcases List.mem_map_ite.mp (hpool ▸ he') with ⟨e, _, _, rfl⟩ | ⟨he, hce⟩
    · cases ho
    · obtain ⟨r0, g1, g2, g3⟩ := h.recorded e' he p ho
      obtain ⟨r, hr⟩ := Option.ne_none_iff_exists'.mp (mt (hc e' he p ho).mpr hce)
      obtain ⟨r', f1, f2, f3⟩ := hdb p r hr
      cases g1.symm.trans f1
      exact ⟨r, hr, g2.trans f2, f3 ▸ g3⟩
  · intro q1 q2 r1 r2 h1 h2 hne he ip hi hj
    obtain ⟨r1', a1, a2, a3⟩ := hdb q1 r1 h1
    obtain ⟨r2', b1, b2, b3⟩ := hdb q2 r2 h2
    exact h.noShare q1 q2 r1' r2' a1 b1 hne (by rw [a2, b2]; exact he) ip (a3 ▸ hi) (b3 ▸ hj)

theorem Inv.of_same {s t : Svc} (h : Inv s) (hpool : t.pool = s.pool) (hdual : t.dual = s.dual)
    (hkeys : (t.db.map (·.1)).Nodup)
    (hdb : ∀ p r, dbGet t.db p = some r → ∃ r', dbGet s.db p = some r' ∧ r'.eni = r.eni ∧ r'.ips = r.ips)
    (hdb' : ∀ p r, dbGet s.db p = some r → ∃ r', dbGet t.db p = some r' ∧ r'.eni = r.eni ∧ r'.ips = r.ips) :
    Inv t := by
  refine h.of_drop (c := fun _ => False) hdual hkeys (by simp [hpool]) hdb fun e he q ho => ?_
  obtain ⟨r, g1, _⟩ := h.recorded e he q ho
  obtain ⟨r', f1, _⟩ := hdb' q r g1
  simp [f1]

/-- the update in `delBody` (`delBody_cases` closes by `rfl`) -/
def collectOne (s : Svc) (p : String) (r : Rec) : Svc :=
  { s with pool := release s.pool p r.eni r.ips, db := dbDel s.db p }

theorem Inv.collectOne_pres {s : Svc} (h : Inv s) {p : String} {r : Rec} (hr : dbGet s.db p = some r) :
    Inv (collectOne s p r) := by
  refine h.of_drop (c := fun e => e.eni = r.eni ∧ e.ip ∈ r.ips ∧ e.owner = some p) rfl
    ((dbDel_keys_sublist ..).nodup h.dbKeys) rfl ?_ ?_
  · intro q r' hq
    simp only [collectOne, dbGet_dbDel] at hq
    split at hq
    · cases hq
    · exact ⟨r', hq, rfl, rfl⟩
  · intro e he q hq
    obtain ⟨r', hr', e1, e2⟩ := h.recorded e he q hq
    by_cases hqp : q = p
    · cases hqp; cases hr.symm.trans hr'; simp [collectOne, dbGet_dbDel, hq, e1, e2]
    · simp [collectOne, dbGet_dbDel, hq, hqp, hr']

theorem gcDb_keys_sublist (crd : Bool) (g : GcView) (db : List (String × Rec)) :
    ((gcDb crd g db).map (·.1)).Sublist (db.map (·.1)) := by
  induction db with
  | nil => exact .slnil
  | cons hd t ih => unfold gcDb; split <;> simp [ih, List.Sublist.cons]

theorem gcDb_all_keep {crd : Bool} {g : GcView} {db : List (String × Rec)}
    (h : ∀ pr ∈ db, gcDecide crd g pr.1 pr.2 = .keep) : gcDb crd g db = db := by
  induction db with
  | nil => rfl
  | cons hd t ih =>
    rw [List.forall_mem_cons] at h
    rw [gcDb, h.1, ih h.2]

def gcOut (crd : Bool) (g : GcView) (q : String) (r : Rec) : Option Rec :=
  match gcDecide crd g q r with
  | .keep => some r
  | .unstick => some { r with stick := false }
  | .collect => none

theorem gcOut_some {crd : Bool} {g : GcView} {q : String} {r r' : Rec} (h : gcOut crd g q r = some r') :
    r.eni = r'.eni ∧ r.ips = r'.ips := by
  unfold gcOut at h
  split at h <;> cases h <;> exact ⟨rfl, rfl⟩

theorem gcOut_eq_none {crd : Bool} {g : GcView} {q : String} {r : Rec} :
    gcOut crd g q r = none ↔ gcDecide crd g q r = .collect := by
  unfold gcOut
  split <;> simp [*]

theorem gcDb_get {crd : Bool} {g : GcView} {db : List (String × Rec)} (hk : (db.map (·.1)).Nodup) (q : String) :
    dbGet (gcDb crd g db) q = (dbGet db q).bind (gcOut crd g q) := by
  induction db with
  | nil => rfl
  | cons hd t ih =>
    obtain ⟨k, r⟩ := hd
    simp only [List.map_cons, List.nodup_cons] at hk
    by_cases hq : k = q
    · subst hq
      have hnone : dbGet (gcDb crd g t) k = none :=
        dbGet_eq_none_iff.mpr fun hm => hk.1 ((gcDb_keys_sublist crd g t).subset hm)
      unfold gcDb
      cases hg : gcDecide crd g k r <;> simp [dbGet, gcOut, hg, hnone]
    · unfold gcDb
      cases hg : gcDecide crd g k r <;> simp [dbGet, hq, ih hk.2]

def Collects (crd : Bool) (g : GcView) (db : List (String × Rec)) (e : Ent) : Prop :=
  ∃ pr ∈ db, gcDecide crd g pr.1 pr.2 = .collect ∧ e.eni = pr.2.eni ∧ e.ip ∈ pr.2.ips ∧ e.owner = some pr.1

instance (crd : Bool) (g : GcView) (db : List (String × Rec)) : DecidablePred (Collects crd g db) :=
  fun _ => List.decidableBEx _ _

theorem collects_cons {crd : Bool} {g : GcView} {p : String} {r : Rec} {t : List (String × Rec)} {e : Ent} :
    Collects crd g ((p, r) :: t) e ↔
      gcDecide crd g p r = .collect ∧ (e.eni = r.eni ∧ e.ip ∈ r.ips ∧ e.owner = some p) ∨ Collects crd g t e := by
  simp [Collects]

theorem gcPool_eq_map (crd : Bool) (g : GcView) (db : List (String × Rec)) (pool : List Ent) :
    gcPool crd g db pool = pool.map fun e => if Collects crd g db e then { e with owner := none } else e := by
  induction db generalizing pool with
  | nil => exact (List.map_ite_eq_self (by simp [Collects])).symm
  | cons hd t ih =>
    obtain ⟨p, r⟩ := hd
    rw [gcPool, ih]
    split
    · next hc =>
      rw [release, List.map_map]
      refine List.map_congr_left fun e _ => ?_
      simp only [Function.comp, collects_cons, hc, true_and]
      split
      -- just released: the entry has no owner, so no record of `t` collects it again
      · next c => simp [c, Collects]
      · next c => simp [c]
    · next hc => simp only [collects_cons, hc, false_and, false_or]

theorem mem_gcPool_iff {crd : Bool} {g : GcView} {db : List (String × Rec)} {pool : List Ent} {e : Ent} {q : String}
    (ho : e.owner = some q) : e ∈ gcPool crd g db pool ↔ e ∈ pool ∧ ¬ Collects crd g db e := by
  rw [gcPool_eq_map, List.mem_map_ite]
  refine ⟨?_, .inr⟩
  rintro (⟨_, _, _, rfl⟩ | h)
  · cases ho
  · exact h

theorem gcPool_all_keep {crd : Bool} {g : GcView} {db : List (String × Rec)} {pool : List Ent}
    (h : ∀ pr ∈ db, gcDecide crd g pr.1 pr.2 = .keep) : gcPool crd g db pool = pool := by
  rw [gcPool_eq_map]
  refine List.map_ite_eq_self fun e _ ⟨pr, hpr, hc, _⟩ => ?_
  cases (h pr hpr).symm.trans hc

theorem gcPass_some {s s' : Svc} {g : GcView} (h : gcPass s g = some s') :
    s.pending = [] ∧ s' = { s with db := gcDb s.crd g s.db, pool := gcPool s.crd g s.db s.pool } := by
  unfold gcPass at h
  split at h
  · cases h
  · next hp => cases h; exact ⟨Decidable.not_not.mp hp, rfl⟩

theorem Inv.gc_pres {s s' : Svc} (h : Inv s) {g : GcView} (hp : gcPass s g = some s') : Inv s' := by
  cases (gcPass_some hp).2
  refine h.of_drop rfl ((gcDb_keys_sublist ..).nodup h.dbKeys) (gcPool_eq_map ..) ?_ ?_
  · intro q r hq
    obtain ⟨r0, h0, hq⟩ := Option.bind_eq_some_iff.mp (gcDb_get h.dbKeys q ▸ hq)
    exact ⟨r0, h0, gcOut_some hq⟩
  · intro e he q hq
    obtain ⟨r0, h0, e1, e2⟩ := h.recorded e he q hq
    simp only [gcDb_get h.dbKeys, h0, Option.bind_some, gcOut_eq_none]
    constructor
    · rintro ⟨⟨p', r'⟩, hm, hc, _, _, ho⟩
      cases hq.symm.trans ho
      cases (dbGet_of_mem h.dbKeys hm).symm.trans h0
      exact hc
    · exact fun hc => ⟨(q, r0), mem_of_dbGet h0, hc, e1, e2, hq⟩

theorem ownerOf_eq_find (db : List (String × Rec)) (eni : String) (ip : Nat) :
    ownerOf db eni ip = (db.find? fun pr => pr.2.eni = eni ∧ ip ∈ pr.2.ips).map (·.1) := by
  induction db with
  | nil => rfl
  | cons hd t ih => unfold ownerOf; split <;> simp [*]

theorem ownerOf_some {db : List (String × Rec)} {eni : String} {ip : Nat} {p : String}
    (h : ownerOf db eni ip = some p) : ∃ r, (p, r) ∈ db ∧ r.eni = eni ∧ ip ∈ r.ips := by
  rw [ownerOf_eq_find, Option.map_eq_some_iff] at h
  obtain ⟨⟨_, r⟩, hf, rfl⟩ := h
  exact ⟨r, List.mem_of_find?_eq_some hf, by simpa using List.find?_some hf⟩

theorem ownerOf_eq_none_iff {db : List (String × Rec)} {eni : String} {ip : Nat} :
    ownerOf db eni ip = none ↔ ∀ p r, (p, r) ∈ db → ¬ (r.eni = eni ∧ ip ∈ r.ips) := by
  simp [ownerOf_eq_find]

/-- `ownerOf` answers with the first record that names the address; by `NoShare` there is no other -/
theorem ownerOf_recorded {db : List (String × Rec)} (hk : (db.map (·.1)).Nodup) (hn : NoShare db)
    {p : String} {r : Rec} (hr : dbGet db p = some r) {ip : Nat} (hi : ip ∈ r.ips) :
    ownerOf db r.eni ip = some p := by
  cases ho : ownerOf db r.eni ip with
  | none => exact absurd ⟨rfl, hi⟩ (ownerOf_eq_none_iff.mp ho p r (mem_of_dbGet hr))
  | some q =>
    obtain ⟨r', hm, h1, h2⟩ := ownerOf_some ho
    by_cases hqp : q = p
    · rw [hqp]
    · exact absurd h2 (hn p q r r' hr (dbGet_of_mem hk hm) (Ne.symm hqp) h1.symm ip hi)

theorem owner_of_mem_restart {s : Svc} {cloud : List (String × Nat)} {e : Ent} (h : e ∈ (restart s cloud).pool) :
    e.owner = ownerOf s.db e.eni e.ip := by
  obtain ⟨⟨eni, ip⟩, _, rfl⟩ := List.mem_map.mp h
  rfl

theorem restart_pool_keys (s : Svc) (cloud : List (String × Nat)) : (restart s cloud).pool.map key = cloud := by
  simp [restart, Function.comp_def, key]

/-- needs the store's part of `Inv` only: the pool is rebuilt from the cloud's report -/
theorem Inv.of_restart {s : Svc} (hk : (s.db.map (·.1)).Nodup) (hs : ∀ p r, dbGet s.db p = some r → Shape s.dual r.ips)
    (hn : NoShare s.db) {cloud : List (String × Nat)} (hc : cloud.Nodup) : Inv (restart s cloud) := by
  refine ⟨by rwa [KeysNodup, restart_pool_keys], hk, hs, ?_, ?_, hn⟩
  · intro p r hr e he h1 h2
    rw [owner_of_mem_restart he, h1]
    exact ownerOf_recorded hk hn hr h2
  · intro e he p ho
    rw [owner_of_mem_restart he] at ho
    obtain ⟨r, hm, h1, h2⟩ := ownerOf_some ho
    exact ⟨r, dbGet_of_mem hk hm, h1.symm, h2⟩

theorem addBody_cases (s : Svc) (p cid : String) (v : PodGet) (pick : List Ent) :
    addBody s p cid v pick = (s, .err) ∨
    ∃ stick eni, PickSpec s p pick eni ∧
      addBody s p cid v pick = (served s p cid stick pick eni, .ok (pick.map (·.ip))) := by
  unfold addBody
  split
  · next stick =>
    split
    · exact .inl rfl
    · split
      · next h => exact .inr ⟨stick, _, pickOK_spec h, rfl⟩
      · exact .inl rfl
  · exact .inl rfl

theorem delBody_cases (s : Svc) (p cid : String) (v : PodGet) :
    (delBody s p cid v).1 = s ∨ ∃ r, dbGet s.db p = some r ∧ (delBody s p cid v).1 = collectOne s p r := by
  unfold delBody
  split
  · exact .inl rfl
  · exact .inl rfl
  · split
    · exact .inl rfl
    · next r hr =>
      split
      · exact .inl rfl
      · split
        · exact .inr ⟨r, hr, rfl⟩
        · exact .inl rfl

theorem getBody_fst (s : Svc) (p cid : String) (v : PodGet) : (getBody s p cid v).1 = s := by
  unfold getBody
  repeat' split
  all_goals rfl

theorem addFail_good_noop {s : Svc} (h : Inv s) {p : String} {pick : List Ent} :
    (addFailBody s p pick true).1 = s := by
  unfold addFailBody
  split
  · rfl
  · split
    · next hp =>
      have sp := pickOK_spec hp
      -- an entry bound to the pod is recorded, so the filter dropped it: nothing handed back was the pod's
      simp only [if_true]
      rw [release_eq_self]
      rintro e he ⟨h1, h2, ho⟩
      obtain ⟨pe, hpe, hip⟩ := List.mem_map.mp h2
      obtain ⟨hpe, hf⟩ := List.mem_filter.mp hpe
      have spe := sp.each pe hpe
      cases h.keys.eq spe.mem he (spe.onEni.trans h1.symm) hip
      obtain ⟨r, hr, he1, he2⟩ := h.recorded e he p ho
      simp [ho, recordedFor, hr, he1, he2] at hf
    · rfl

theorem body_frame (s : Svc) (k : Kind) (p cid : String) (v : PodGet) :
    (body s k p cid v).1.crd = s.crd ∧ (body s k p cid v).1.dual = s.dual ∧
      ∀ q, q ≠ p → dbGet (body s k p cid v).1.db q = dbGet s.db q := by
  cases k with
  | add pick => rcases addBody_cases s p cid v pick with e | ⟨_, _, _, e⟩ <;> simp +contextual [body, e, served, dbGet_dbPut]
  | addFail pick back =>
    simp only [body, addFailBody]
    split
    · simp
    · split <;> simp
  | del => rcases delBody_cases s p cid v with e | ⟨_, _, e⟩ <;> simp +contextual [body, e, collectOne, dbGet_dbDel]
  | get => simp [body, getBody_fst]

/-- requests the invariant is proved for: every kind except a failing ADD that keeps what it took
    (the defect repaired in `Manager.Allocate`) -/
def Kind.Good : Kind → Prop
  | .addFail _ back => back = true
  | _ => True

/-- that the cloud's report at a restart or crash lists no address twice is an assumption on the environment -/
def Op.Good : Op → Prop
  | .req k _ _ _ => k.Good
  | .leave k _ _ _ => k.Good
  | .enter _ => True
  | .gc _ => True
  | .restart c => c.Nodup
  | .crash k _ _ _ _ c => k.Good ∧ c.Nodup

theorem Inv.body_pres {s : Svc} (h : Inv s) {k : Kind} (hk : k.Good) (p cid : String) (v : PodGet) :
    Inv (body s k p cid v).1 := by
  cases k with
  | add pick =>
    rcases addBody_cases s p cid v pick with e | ⟨_, _, sp, e⟩ <;> simp only [body, e]
    · exact h
    · exact h.add_pres sp
  | addFail pick back => cases hk; rwa [body, addFail_good_noop h]
  | del =>
    rcases delBody_cases s p cid v with e | ⟨_, hr, e⟩ <;> simp only [body, e]
    · exact h
    · exact h.collectOne_pres hr
  | get => rwa [body, getBody_fst]

theorem Inv.apply_pres {s : Svc} (h : Inv s) {op : Op} (hg : op.Good) : Inv (apply s op) := by
  cases op with
  | req k p cid v =>
    simp only [apply, request]
    split
    · exact h
    · exact h.body_pres hg p cid v
  | enter p =>
    simp only [apply, enter]
    split
    · exact h
    · exact h.of_pending
  | leave k p cid v =>
    simp only [apply]
    split
    · exact (h.body_pres hg p cid v).of_pending
    · exact h
  | gc g =>
    simp only [apply]
    cases hp : gcPass s g with
    | none => exact h
    | some s' => exact h.gc_pres hp
  | restart c => exact Inv.of_restart h.dbKeys h.shape h.noShare hg
  | crash k p cid v w c =>
    have hb := h.body_pres hg.1 p cid v
    cases w with
    | true =>
      -- the crashed state has the body's store and the old flags
      exact Inv.of_restart (s := { s with db := _ }) hb.dbKeys ((body_frame s k p cid v).2.1 ▸ hb.shape) hb.noShare
        hg.2
    | false => exact Inv.of_restart h.dbKeys h.shape h.noShare hg.2

theorem Inv.of_boot (crd dual : Bool) {cloud : List (String × Nat)} (hc : cloud.Nodup) : Inv (boot crd dual cloud) :=
  Inv.of_restart (s := { db := [], pool := [], pending := [], crd := crd, dual := dual }) .nil nofun nofun hc

theorem Inv.run_pres {s : Svc} (h : Inv s) {ops : List Op} (hg : ∀ op ∈ ops, op.Good) : Inv (run s ops) := by
  induction ops generalizing s with
  | nil => exact h
  | cons op rest ih =>
    exact ih (h.apply_pres (hg op (by simp))) (fun o ho => hg o (by simp [ho]))

end Terway.Daemon

namespace Terway.Daemon.Store

theorem foldl_write (ops : List (Bool × String × String)) (st : St) :
    ops.foldl write st = ⟨ops.foldl apply st.disk, ops.foldl apply st.mem⟩ := by
  induction ops generalizing st with
  | nil => rfl
  | cons o rest ih => rw [List.foldl_cons, ih]; rfl

end Terway.Daemon.Store
