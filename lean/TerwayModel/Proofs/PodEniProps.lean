import TerwayModel.Proofs.PodEniObs
/-!
Step lemmas behind the property theorems of C10 and C11 (Props/C10.lean, Props/C11.lean): each says what one
accepted event can do to a state that satisfies the invariants.  Those about how the record changes rest on
`step_rcd`: an event leaves the record alone or is one of the eleven writes listed in `Write`.
-/
namespace Terway.PE

/-- the documented life cycle (pkg/apis/network.alibabacloud.com/v1beta1/types.go:113-151):
    initial → Bind, Bind → Detaching → Unbind → Binding → Bind, anything → Deleting -/
def documented (a b : Phase) : Prop :=
  (a = .initial ∧ b = .bind) ∨ (a = .bind ∧ b = .detaching) ∨ (a = .detaching ∧ b = .unbind) ∨
  (a = .unbind ∧ b = .binding) ∨ (a = .binding ∧ b = .bind) ∨ b = .deleting

/-- the two edges the code takes beyond the diagram (known findings `C10/phase/I-to-Dt`, `C10/phase/Bg-to-Dt`):
    a fixed-address record whose pod goes away before the (re-)attach completed is sent to Detaching -/
def undocumented (a b : Phase) : Prop :=
  (a = .initial ∧ b = .detaching) ∨ (a = .binding ∧ b = .detaching)

/-- a roll-back delete that failed -/
def failedDelete : Ev → Bool
  | .pCloudDelete _ ok => !ok
  | _ => false

/-- the cloud calls that take an interface away: detach and delete, by any of the actors -/
def pulls : Ev → Option Nat
  | .eDetach id true => some id
  | .eCloudDelete id true => some id
  | .lDelete id true => some id
  | .lDetach id true => some id
  | .pCloudDelete id true => some id
  | _ => none

/-- interface `id` is named by the record of a pod instance that exists and has not finished -/
def Protected (s : St) (id : Nat) : Prop :=
  ∃ c q, s.rcd = some c ∧ id ∈ c.enis ∧ s.pod = some q ∧ q.uid = c.uid ∧ q.exited = false

theorem allocKeeps_iff (ls : Option Nat) (now : Nat) (st : Strat) :
    allocKeeps ls now st = true ↔ st = .never ∨ st = .bad ∨ ∃ d t, st = .ttl d ∧ ls = some t ∧ now < t + d := by
  cases st <;> cases ls <;> simp [allocKeeps]

theorem keep_false {allocs : List Alloc} {ls : Option Nat} {now : Nat} (h : keep allocs ls now = false) :
    ∀ a ∈ allocs, a.strat = .elastic ∨ ∃ d, a.strat = .ttl d ∧ (ls = none ∨ ∃ t, ls = some t ∧ t + d ≤ now) := by
  intro a ha
  have : ¬ allocKeeps ls now a.strat = true := by
    simp only [keep, List.any_eq_false] at h; exact h a ha
  rw [allocKeeps_iff] at this
  cases hs : a.strat <;> cases ls <;> simp_all

attribute [grind .] keep_false

theorem daemonAccepts_iff (s : St) (u : Nat) :
    daemonAccepts s u = true ↔
      ∃ c, s.rcd = some c ∧ c.phase = .bind ∧ c.uid = u ∧ c.del = false ∧ c.allocs ≠ [] := by
  unfold daemonAccepts
  cases s.rcd with
  | none => simp
  | some c =>
    simp only [Bool.and_eq_true, Bool.not_eq_true', beq_iff_eq, List.isEmpty_eq_false_iff, Option.some.injEq,
      exists_eq_left', ne_eq]
    exact ⟨fun ⟨⟨⟨h1, h2⟩, h3⟩, h4⟩ => ⟨h2, h3, h1, h4⟩, fun ⟨h2, h3, h1, h4⟩ => ⟨⟨⟨h1, h2⟩, h3⟩, h4⟩⟩

/-- the writes to the record, each with as much of what its actor holds as the lemmas below use -/
inductive Write (s : St) : Ev → Option Rec → Option Rec → Prop
  | pStatus {c ver ph} : pStatusOK s.p ver ph = true → c.ver = ver →
      Write s (.pStatus ver ph .ok) (some c) (some { c with phase := ph, ver := s.nextVer })
  | pSetUid {c ver u} : Write s (.pSetUid ver u .ok) (some c) (some { c with uid := u, ver := s.nextVer })
  | pPatchLabel {c} : Write s (.pPatchLabel .ok) (some c) (some { c with ver := s.nextVer })
  | pDeleteRec {c} : s.p = .delRec →
      Write s (.pDeleteRec .ok) (some c) (some { c with del := true, ver := s.nextVer })
  | pCreateRec {u made allocs} :
      Write s (.pCreateRec allocs .ok) none
        (some { ver := s.nextVer, phase := .initial, uid := u, del := false, allocs := stamp made allocs,
                inst := none, lastSeen := none })
  | eDeleteRec {c} : s.e = .delRec →
      Write s (.eDeleteRec .ok) (some c) (some { c with del := true, ver := s.nextVer })
  | eStatusUnbind {c r} : s.e = .detach r false → c.ver = r.ver →
      Write s (.eStatusUnbind r.ver .ok) (some c) (some { c with phase := .unbind, inst := none, ver := s.nextVer })
  | eFinalize {c r} : s.e = .detach r true → Write s (.eFinalize r.ver .ok) (some c) none
  | eStatusBind {c r fn inst} : s.e = .attach r fn (some inst) false → c.ver = r.ver →
      Write s (.eStatusBind r.ver inst .ok) (some c)
        (some { c with phase := .bind, inst := some inst, lastSeen := if c.fixed then some s.now else c.lastSeen,
                       ver := s.nextVer })
  | gTouch {c} : Write s (.gTouch .ok) (some c) (some { c with lastSeen := some s.now, ver := s.nextVer })
  | gReap {c ver} : Write s (.gReap ver .ok) (some c) (some { c with phase := .deleting, ver := s.nextVer })

theorem step_rcd {s t : St} {ev : Ev} (hs : step s ev = some t) : t.rcd = s.rcd ∨ Write s ev s.rcd t.rcd := by
  step_cases hs <;> first
    | exact .inl rfl
    | (simp only [markDel, *]; grind [Write])

theorem allocs_same {s t : St} {ev : Ev} (hs : step s ev = some t) {r r' : Rec}
    (hr : s.rcd = some r) (hr' : t.rcd = some r') : r'.allocs = r.allocs := by
  rcases step_rcd hs with h | h
  · rw [h, hr] at hr'; cases hr'; rfl
  · rw [hr, hr'] at h; cases h <;> rfl

theorem removed_del {s t : St} {ev : Ev} (hI : Inv s) (hs : step s ev = some t) {r : Rec}
    (hr : s.rcd = some r) (hr' : t.rcd = none) : r.del = true := by
  rcases step_rcd hs with h | h
  · rw [h, hr] at hr'; cases hr'
  · rw [hr, hr'] at h
    -- the one write that leaves no record is the end of a tear-down, whose snapshot was marked for deletion
    cases h with
    | eFinalize he =>
      obtain ⟨hd, -, -, h4⟩ := hI.i2.fEDet _ _ he
      exact (h4 r hr).2.2.2 (hd rfl)

theorem phase_edge {s t : St} {ev : Ev} (hI : Inv s) (hs : step s ev = some t) {r r' : Rec}
    (hr : s.rcd = some r) (hr' : t.rcd = some r') :
    r'.phase = r.phase ∨ documented r.phase r'.phase ∨ undocumented r.phase r'.phase := by
  rcases step_rcd hs with h | h
  · rw [h, hr] at hr'; cases hr'; exact .inl rfl
  rw [hr, hr'] at h
  cases h with
  | pSetUid | pPatchLabel | pDeleteRec | eDeleteRec | gTouch => exact .inl rfl
  | gReap => exact .inr (.inl (by simp [documented]))
  | pStatus hok hv =>
    rcases (pStatusOK_true ..).mp hok with hp | ⟨u, hp, rfl⟩
    · obtain ⟨hph, h2⟩ := hI.i2.fPUpd _ _ hp
      rcases hph with rfl | rfl
      · have := (h2 r hr hv).2 rfl
        cases h : r.phase <;> simp_all [documented, undocumented]
      · exact .inr (.inl (by simp [documented]))
    · have := (hI.i2.fPRec _ _ _ hp r hr hv).1
      exact .inr (.inl (by simp [documented, this]))
  | eStatusUnbind he hv =>
    -- by its version the record is still the snapshot, which was Detaching
    have := (hI.i1.eSnapD _ _ he).2 r hr hv
    have := (hI.i2.fEDet _ _ he).2.1 rfl
    exact .inr (.inl (by simp_all [documented]))
  | eStatusBind he hv =>
    have := (hI.i1.eSnapA _ _ _ _ he).2 r hr hv
    have := (hI.i2.fEAtt _ _ _ _ he).1
    subst_vars
    rcases this with h | h <;> exact .inr (.inl (by simp [documented, h]))

theorem del_requested {s t : St} {ev : Ev} (hI : Inv s) (hs : step s ev = some t) {r r' : Rec}
    (hr : s.rcd = some r) (hr' : t.rcd = some r') (h0 : r.del = false) (h1 : r'.del = true) :
    (ev = .eDeleteRec .ok ∧ r.phase = .deleting) ∨ (ev = .pDeleteRec .ok ∧ r.fixed = false ∧ NotRunning s r.uid) := by
  rcases step_rcd hs with h | h
  · rw [h, hr] at hr'; cases hr'; simp [h0] at h1
  rw [hr, hr'] at h
  cases h with
  | pDeleteRec hp => exact .inr ⟨rfl, hI.i4.fPDelNF hp r hr, hI.i2.fPDel (.inr hp) r hr⟩
  | eDeleteRec he => exact .inl ⟨rfl, ((hI.i2.fEDel he).2 r hr).resolve_right (by simp [h0])⟩
  | _ => simp [h0] at h1

theorem fixed_only_reaped {s t : St} {ev : Ev} (hI : Inv s) (hs : step s ev = some t) {c c' : Rec}
    (hc : s.rcd = some c) (hf : c.fixed = true) (hc' : t.rcd = some c') :
    ((c'.phase = .deleting ∧ c.phase ≠ .deleting) → ∃ ver, ev = .gReap ver .ok) ∧
    ((c'.del = true ∧ c.del = false) → c.phase = .deleting) := by
  refine ⟨fun ⟨h1, h2⟩ => ?_, fun ⟨h1, h0⟩ => ?_⟩
  · rcases step_rcd hs with h | h
    · rw [h, hc] at hc'; cases hc'; exact absurd h1 h2
    rw [hc, hc'] at h
    cases h with
    | gReap => exact ⟨_, rfl⟩
    | pStatus hok hv =>
      subst h1
      rcases (pStatusOK_true ..).mp hok with hp | ⟨u, hp, h⟩
      · have := hI.i4.fPUpdDl _ hp c hc hv; simp [hf] at this
      · cases h
    | eStatusBind => simp at h1
    | _ => first | exact absurd h1 h2 | cases h1
  · rcases del_requested hI hs hc hc' h0 h1 with ⟨-, h⟩ | ⟨-, h, -⟩
    · exact h
    · simp [hf] at h

theorem leaked_failedDelete {s t : St} {ev : Ev} (hs : step s ev = some t) (hl : t.leaked ≠ s.leaked) :
    failedDelete ev = true := by
  revert hl
  step_cases hs <;> first | exact fun h => absurd rfl h | simp_all [failedDelete]

/-- Whoever takes an interface away holds its id: the PodENI controller in a detach or tear-down of a record that names
it (`EDet`: on its way out, so by `J2` its pod is not running), the leak collector after its listing (`LList`: no record
names it), the pod controller rolling back what it created (`PMade`, `PRoll`: not recorded yet). -/
theorem no_pull {s t : St} {ev : Ev} (hI : Inv s) (hs : step s ev = some t) {id : Nat} (hp : pulls ev = some id) :
    ¬ Protected s id := by
  have := hI.i2.fJ2; have := hI.i2.fEDet; have := hI.i3.fLList; have := hI.i3.fPRoll; have := hI.i3.fPMade
  revert hp
  step_cases hs <;> first
    | (intro h; cases h; done)
    | grind [pulls, Protected, J2, EDet, LList, PRoll, PMade, NotRunning]

theorem ip_same {s t : St} {ev : Ev} (hI : Inv s) (hs : step s ev = some t) {en en' : Eni}
    (h : en ∈ s.cloud) (h' : en' ∈ t.cloud) (hid : en'.id = en.id) : en'.ip = en.ip := by
  -- an id names one entry (`CSort`), and what an event appends has an id not below `nextEni` (`CLt`)
  have := hI.i3.fCSort; have := hI.i3.fCLt
  revert h'
  step_cases hs <;> grind [CSort, CLt]

theorem bind_attached {s t : St} {ver inst : Nat} (hI : Inv s) (hs : step s (.eStatusBind ver inst .ok) = some t)
    {c : Rec} (hc : s.rcd = some c) : ∀ a ∈ c.allocs, attachedTo s.cloud a.eni inst = true := by
  have := hI.i1.eSnapA
  simp only [step, stepE] at hs
  grind [SnapOK, Rec.enis]

theorem reap_after_ttl {s t : St} {ver : Nat} (hI : Inv s) (hs : step s (.gReap ver .ok) = some t) {c : Rec}
    {a : Alloc} (hc : s.rcd = some c) (ha : a ∈ c.allocs) (hf : a.fixed = true) :
    ∃ d, a.strat = .ttl d ∧ ∀ o, s.obs = some o → o + d ≤ s.now := by
  have := hI.i1.gSnapS; have := hI.i4.fObsLs
  simp only [step, stepG] at hs
  grind [SnapOK, ObsLs, GPend, Alloc.fixed, Rec.fixed]

theorem leak_reap {s t : St} {id : Nat} {ok : Bool} {ev : Ev} (hI : Inv s)
    (hev : ev = .lDelete id ok ∨ ev = .lDetach id ok) (hs : step s ev = some t) :
    (∀ en ∈ s.cloud, en.id = id → en.ours = true ∧ en.ctime + grace ≤ s.now) ∧
      (∀ c, s.rcd = some c → id ∉ c.enis) := by
  have := hI.i3.fLCandL; have := hI.i3.fLList
  rcases hev with rfl | rfl <;> simp only [step, stepL] at hs <;> grind [LCandL, LList]

end Terway.PE
