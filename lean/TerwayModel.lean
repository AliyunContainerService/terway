import TerwayModel.Proofs.List
import TerwayModel.Model.Net
import TerwayModel.Proofs.Net
import TerwayModel.Props.C14
import TerwayModel.Model.Token
import TerwayModel.Proofs.Token
import TerwayModel.Props.C16
import TerwayModel.Model.VSwitch
import TerwayModel.Proofs.VSwitch
import TerwayModel.Props.C17
import TerwayModel.Model.Bandwidth
import TerwayModel.Proofs.Bandwidth
import TerwayModel.Props.C15
import TerwayModel.Model.Capacity
import TerwayModel.Proofs.Capacity
import TerwayModel.Props.C19
import TerwayModel.Model.Json
import TerwayModel.Proofs.Json
import TerwayModel.Model.CniChain
import TerwayModel.Props.C20
import TerwayModel.Model.NetConf
import TerwayModel.Proofs.NetConf
import TerwayModel.Props.C12
import TerwayModel.Model.Datapath
import TerwayModel.Model.Fib
import TerwayModel.Proofs.Fib
import TerwayModel.Props.C13
import TerwayModel.Model.Webhook
import TerwayModel.Proofs.Webhook
import TerwayModel.Props.C18
import TerwayModel.Model.Daemon
import TerwayModel.Proofs.Daemon
import TerwayModel.Props.C04
import TerwayModel.Props.C05
import TerwayModel.Props.C09
import TerwayModel.Model.Pool
import TerwayModel.Proofs.Pool
import TerwayModel.Props.C01
import TerwayModel.Props.C06
import TerwayModel.Props.C07
import TerwayModel.Model.Ipam
import TerwayModel.Proofs.Ipam
import TerwayModel.Props.C02
import TerwayModel.Props.C03
import TerwayModel.Props.C08
import TerwayModel.Model.PodEni
import TerwayModel.Driver.PodEni
import TerwayModel.Model.Remote
import TerwayModel.Driver.Remote
import TerwayModel.Props.C10
import TerwayModel.Props.C11
